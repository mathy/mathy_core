import Mathy.Model.Expr
import Mathy.Model.HeapOps
import Mathy.Model.Layout
import Mathy.Model.LayoutInv
import Mathy.Model.Parser
import Mathy.Model.ParserObj
import Mathy.Model.Print
import Mathy.Model.PrintStr
import Mathy.Model.ProblemGen
import Mathy.Model.Problems
import Mathy.Model.PyEval
import Mathy.Model.PyRt
import Mathy.Model.PyRtNum
import Mathy.Model.PyRtParse
import Mathy.Model.PyRtTok
import Mathy.Model.Rules
import Mathy.Model.SubTerms
import Mathy.Model.TermsLike
import Mathy.Model.Tok
import Mathy.Model.Tree
import Mathy.Model.Util
import Mathy.Model.Wire
import Mathy.Spec.Grammar
import Mathy.Gen.LayoutTable
import Mathy.Gen.PySrcEval
import Mathy.Gen.PySrcLike
import Mathy.Gen.PySrcParse
import Mathy.Gen.PySrcPrint
import Mathy.Gen.PySrcRules
import Mathy.Gen.PySrcStr
import Mathy.Gen.PySrcTok
import Mathy.Gen.PySrcTokSt
import Mathy.Gen.PySrcTree
import Mathy.Gen.PySrcUtil
import Mathy.Gen.PySrcVisit
import Mathy.Gen.Tables
import Mathy.Proofs.Apply
import Mathy.Proofs.Arr
import Mathy.Proofs.BMSound
import Mathy.Proofs.CtxLemmas
import Mathy.Proofs.DFSound
import Mathy.Proofs.Eval
import Mathy.Proofs.ExBT
import Mathy.Proofs.ExLemmas
import Mathy.Proofs.FactorLemmas
import Mathy.Proofs.GrammarLemmas
import Mathy.Proofs.HeapAttach
import Mathy.Proofs.HeapClone
import Mathy.Proofs.HeapRep
import Mathy.Proofs.HeapRotate
import Mathy.Proofs.ParserComplete
import Mathy.Proofs.ParserFuel
import Mathy.Proofs.ParserFuelAux
import Mathy.Proofs.ParserObjLemmas
import Mathy.Proofs.ParserSound
import Mathy.Proofs.ParserStep
import Mathy.Proofs.PrintLemmas
import Mathy.Proofs.PrintParse
import Mathy.Proofs.PrintableLemmas
import Mathy.Proofs.ProblemGenLemmas
import Mathy.Proofs.ProblemLemmas
import Mathy.Proofs.PyEvalLemmas
import Mathy.Proofs.PyEvalNode
import Mathy.Proofs.PyRtAttr
import Mathy.Proofs.PyRtLemmas
import Mathy.Proofs.PySrcAgree
import Mathy.Proofs.PySrcAgreeBM
import Mathy.Proofs.PySrcAgreeCA
import Mathy.Proofs.PySrcAgreeCache
import Mathy.Proofs.PySrcAgreeDF
import Mathy.Proofs.PySrcAgreeEval
import Mathy.Proofs.PySrcAgreeLike
import Mathy.Proofs.PySrcAgreeParse
import Mathy.Proofs.PySrcAgreeParse2
import Mathy.Proofs.PySrcAgreeParse3
import Mathy.Proofs.PySrcAgreeParse4
import Mathy.Proofs.PySrcAgreeParse5
import Mathy.Proofs.PySrcAgreePrint
import Mathy.Proofs.PySrcAgreeStr
import Mathy.Proofs.PySrcAgreeTerm
import Mathy.Proofs.PySrcAgreeTok
import Mathy.Proofs.PySrcAgreeTokSt
import Mathy.Proofs.PySrcAgreeTree
import Mathy.Proofs.PySrcAgreeVM
import Mathy.Proofs.PySrcAgreeVisit
import Mathy.Proofs.RulesSound
import Mathy.Proofs.SchemaLemmas
import Mathy.Proofs.StrTok
import Mathy.Proofs.Struct
import Mathy.Proofs.SubTermsLemmas
import Mathy.Proofs.TablesAgree
import Mathy.Proofs.Terms
import Mathy.Proofs.TermsLikeLemmas
import Mathy.Proofs.TokLemmas
import Mathy.Proofs.Traversal
import Mathy.Proofs.UtilLemmas
import Mathy.Proofs.Total
import Mathy.Proofs.VMSound
import Mathy.Props.C01
import Mathy.Props.C02
import Mathy.Props.C03
import Mathy.Props.C03Value
import Mathy.Props.C04
import Mathy.Props.C04Str
import Mathy.Props.C05
import Mathy.Props.C05Agree
import Mathy.Props.C06
import Mathy.Props.C06Order
import Mathy.Props.C07
import Mathy.Props.C07Heap
import Mathy.Props.C07Seq
import Mathy.Props.C08
import Mathy.Props.C09
import Mathy.Props.C09Print
import Mathy.Props.C10
import Mathy.Props.C11
import Mathy.Props.C12
import Mathy.Props.C13
import Mathy.Props.C13Heap
import Mathy.Props.C14
import Mathy.Props.C14Find
import Mathy.Props.C15
import Mathy.Props.C15Assoc
import Mathy.Props.C16
import Mathy.Props.C16Equiv
import Mathy.Props.C16SubTerms
import Mathy.Props.C17
import Mathy.Props.C17Gen
import Mathy.Props.C18
import Mathy.Props.SrcTie
import Mathy.Props.SrcTieCache
import Mathy.Props.SrcTieEval
import Mathy.Props.SrcTieLike
import Mathy.Props.SrcTieParse
import Mathy.Props.SrcTiePrint
import Mathy.Props.SrcTieStr
import Mathy.Props.SrcTieTok
import Mathy.Props.SrcTieTree
import Mathy.Props.SrcTieUtil
import Mathy.Props.SrcTieVisit
