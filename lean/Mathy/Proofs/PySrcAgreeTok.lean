/-
The model's character classes are the tokenizer's (translated source), for ALL characters.
`Gen/PySrcTok.lean` is regenerated on every run from the live Python source by `harness/py2lean.py`
(statement-by-statement translation over `Model/PyRt.lean`).
-/
import Mathy.Gen.PySrcTok
import Mathy.Model.Tok
namespace Mathy.SrcAgree
open Mathy.Py Mathy.Gen.Src

theorem is_alpha_agree (c : Char) : Tokenizer_is_alpha c = isAlpha c := by
  simp [Tokenizer_is_alpha, isAlpha, chLe]

theorem is_number_agree (c : Char) : Tokenizer_is_number c = isNumber c := by
  have h : (Char.ofNat 46 == c) = (c == '.') := by
    rw [Bool.eq_iff_iff]; simp only [beq_iff_eq]; exact eq_comm
  simp only [Tokenizer_is_number, isNumber, chLe, h]

end Mathy.SrcAgree
