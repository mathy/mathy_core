/-
`evaluate` and the `operate` methods as translated from the live `mathy_core/expressions.py`
(`Gen/PySrcEval.lean`, regenerated on every run by `harness/py2lean_eval.py`) are the model's `pyEval`,
`pyUn` and `pyBin`.
-/
import Mathy.Gen.PySrcEval
import Mathy.Proofs.PyEvalNode
namespace Mathy.SrcAgree
open Mathy.Py Mathy.Gen.Src

theorem sgn_agree (v : PyVal) : SgnExpression_operate v = pyUn .sgn v := by
  cases v with
  | nan => rfl
  -- the same two tests, in the source among the rationals, in the model inside the constructors
  | int z | flt q =>
    simp only [SgnExpression_operate, pyUn, pySgn, pvLt, pvGt, pvInt, PyVal.toRat?, Rat.intCast_zero,
      Rat.intCast_neg_iff, Rat.intCast_pos, decide_eq_true_eq, apply_ite PyVal.int,
      apply_ite (Except.ok (ε := PyExc))]

theorem pvEq_zero (b : PyVal) : pvEq b (pvInt 0) = (b.toRat? == some 0) := by
  cases b <;> simp [pvEq, pyEq, pvInt, PyVal.toRat?]

theorem div_agree (a b : PyVal) : DivideExpression_operate a b = pyBin .div a b := by
  simp only [DivideExpression_operate, pyBin, pyDiv, pvEq_zero, pvTrueDiv, pvNan]
  cases b.toRat? with
  | none => cases a.toRat? <;> rfl
  | some y =>
    by_cases h : y = 0
    · simp [h]
    · cases a.toRat? <;> simp [h]

theorem pow_agree (a b : PyVal) : PowerExpression_operate a b = pyBin .pow a b := by
  cases a with
  | int x =>
    cases b with
    | int y =>
      -- the source tests `two >= 0` among the rationals; `pvNpPower` on two ints tests it again
      simp only [PowerExpression_operate, pyBin, pvIsInt, PyVal.isInt, pvGe, pvInt, PyVal.toRat?,
        Bool.true_and, Rat.intCast_zero, Rat.intCast_nonneg, decide_eq_true_eq]
      by_cases h : 0 ≤ y
      · rw [if_pos h, pvIntPow, pyPow, if_pos h, if_pos h]
      · rw [if_neg h, pvNpPower, if_neg h]
    -- an operand that is no int fails the `isinstance` test, and `pvNpPower` is `pyPow` there
    | _ => rfl
  | _ => rfl

theorem eq_agree (a b : PyVal) : EqualExpression_operate a b = pyBin .eq a b := by
  simp only [EqualExpression_operate, pyBin, pvNe]
  by_cases h : pyEq a b = true <;> simp [h]

theorem un_agree (o : Uop) (v : PyVal) :
    (match o with
      | .neg => NegateExpression_operate v
      | .fact => FactorialExpression_operate v
      | .sgn => SgnExpression_operate v
      | .abs => AbsExpression_operate v) = pyUn o v := by
  cases o with
  | sgn => exact sgn_agree v
  | _ => rfl

theorem bin_agree (o : Bop) (a b : PyVal) :
    (match o with
      | .add => AddExpression_operate a b
      | .sub => SubtractExpression_operate a b
      | .mul => MultiplyExpression_operate a b
      | .div => DivideExpression_operate a b
      | .pow => PowerExpression_operate a b
      | .eq => EqualExpression_operate a b) = pyBin o a b := by
  cases o with
  | div => exact div_agree a b
  | pow => exact pow_agree a b
  | eq => exact eq_agree a b
  | _ => rfl

theorem evaluate_agree (env : PyEnv) (e : PEx) : MathExpression_evaluate env e = pyEval env e := by
  induction e with
  | cint | cflt => rfl
  | var x => simp only [MathExpression_evaluate, pyEval]; cases env x <;> rfl
  | un o c ih =>
    rw [MathExpression_evaluate, pyEval_un, ih]
    exact congrArg _ (funext (un_agree o))
  | bin o l r ihl ihr =>
    rw [MathExpression_evaluate, pyEval_bin, ihl, ihr]
    exact congrArg _ (funext fun a => congrArg _ (funext (bin_agree o a)))

end Mathy.SrcAgree
