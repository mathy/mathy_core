/-
The parser functions of `Model/Parser.lean` one level unfolded: each `parseX (n + 1) ts` as a
program of the `Except` monad (written with `Except.bind`) over the functions at fuel `n`.
Soundness, completeness, fuel adequacy and the agreement with the translated source all start
from these equations.  `parse_unary`, the optional tails and the turn of the `parse_factors` loop
are read through `unaryBody`, `litTail`, `powTail`, `factorsNext`, each with one equation per branch.
-/
import Mathy.Proofs.GrammarLemmas
namespace Mathy

section bind
variable {ε α β : Type} {x : Except ε α} {f : α → Except ε β}

theorem ok_bind (a : α) : (Except.ok a : Except ε α).bind f = f a := rfl

theorem error_bind (e : ε) : (Except.error e : Except ε α).bind f = .error e := rfl

theorem bind_eq_ok {b : β} : x.bind f = .ok b ↔ ∃ a, x = .ok a ∧ f a = .ok b := by
  cases x <;> simp [Except.bind]

variable {c : Prop} [Decidable c] {k : ε} {b : α}

theorem ite_then_error_eq_ok : (if c then .error k else x) = .ok b ↔ ¬c ∧ x = .ok b := by
  split <;> simp [*]

theorem ite_else_error_eq_ok : (if c then x else .error k) = .ok b ↔ c ∧ x = .ok b := by
  split <;> simp [*]

end bind

section fuel
variable {α β : Type} {x : Except PErr α} {f : α → Except PErr β}

theorem bind_ne_fuel (hx : x ≠ .error .fuel) (hf : ∀ a, x = .ok a → f a ≠ .error .fuel) :
    x.bind f ≠ .error .fuel := by
  cases x with
  | error e => intro (h : Except.error e = _); cases h; exact hx rfl
  | ok a => exact hf a rfl

/-- `x` is the answer `r`, unless the fuel ran out before it was reached -/
def UpTo (x r : Except PErr α) : Prop := x = .error .fuel ∨ x = r

theorem UpTo.rfl : UpTo x x := .inr (Eq.refl x)

theorem UpTo.trans {y r : Except PErr α} (h : UpTo x y) (h' : UpTo y r) : UpTo x r := by
  rcases h with h | rfl
  · exact .inl h
  · exact h'

theorem UpTo.bind {a : α} {r : Except PErr β} (hx : UpTo x (.ok a)) (hf : UpTo (f a) r) :
    UpTo (x.bind f) r := by
  rcases hx with rfl | rfl
  · exact .inl (Eq.refl _)
  · exact hf

end fuel

theorem headType_cases (P : TT → Bool) (hP : P .eof = false) (ts : List Tok) :
    P (headType ts) = false ∨ ∃ t tl, ts = t :: tl ∧ P t.type = true ∧ t.type ≠ .eof := by
  rcases ts with _ | ⟨t, tl⟩
  · exact .inl hP
  · cases h : P t.type
    · exact .inl h
    · exact .inr ⟨t, tl, rfl, h, fun he => by rw [he, hP] at h; cases h⟩

theorem eat_eq_ok {ty : TT} {ts ts' : List Tok} :
    eat ty ts = .ok ts' ↔ ∃ t, ts = t :: ts' ∧ t.type = ty ∧ ty ≠ .eof := by
  constructor
  · intro h
    unfold eat at h
    split at h
    next => cases h
    next hty =>
      cases ts with
      | nil => cases h
      | cons t tl =>
        simp only [advance] at h
        split at h
        next => cases h
        next he =>
          cases h
          have hty : t.type = ty := by simpa [headType] using hty
          exact ⟨t, Eq.refl _, hty, by simpa [hty] using he⟩
  · rintro ⟨t, rfl, rfl, hne⟩
    simp [eat, advance, headType, hne]

theorem eat_cons {t : Tok} {ty : TT} (l : List Tok) (h : t.type = ty) (hne : ty ≠ .eof) :
    eat ty (t :: l) = .ok l := eat_eq_ok.2 ⟨t, rfl, h, hne⟩

theorem eat_ne_fuel (ty : TT) (ts : List Tok) : eat ty ts ≠ .error .fuel := by
  unfold eat advance
  split
  · simp
  · split
    · simp
    · split <;> simp

/-- an optional `^ unary` after the base `b`: the tail of `parse_exponent` and of `parse_factors` -/
def powTail (n : Nat) (b : Ex) (ts : List Tok) : PRes :=
  if isExpTok (headType ts) then
    (eat .exponent ts).bind fun ts =>
      if !firstUnary (headType ts) then .error .invalidSyntax
      else (parseUnary n ts).bind fun p => .ok (.bin 0 .pow b p.1, p.2)
  else .ok (b, ts)

/-- `found = self.check(_FIRST_FACTOR)` and the next turn of the `parse_factors` loop -/
def factorsNext (n : Nat) (acc : List Ex) (f : Ex) (ts : List Tok) :
    Except PErr (List Ex × List Tok) :=
  if firstFactor (headType ts) then factorsLoop n (f :: acc) ts else .ok (f :: acc, ts)

/-- `parse_unary` after a leading literal `ce`: `!`, a run of factors, or nothing -/
def litTail (n : Nat) (ce : Ex) (tl : List Tok) : PRes :=
  if firstFactor (headType tl) then
    if headType tl == .factorial then (eat .factorial tl).bind fun ts => .ok (.un 0 .fact ce, ts)
    else (parseFactors n tl).bind fun p => .ok (.bin 0 .mul ce p.1, p.2)
  else .ok (ce, tl)

/-- `parse_unary` after the optional minus (`neg`: there was one), by the type of the current token as the source tests it -/
def unaryBody (n : Nat) (neg : Bool) (ts : List Tok) : PRes :=
  if headType ts == .constant then
    match parseNumber (ts.headD eofTok).value with
    | none => .error .badNumber
    | some q => (eat .constant ts).bind (litTail n (.const 0 (if neg then -q else q)))
  else if firstFactor (headType ts) then
    (parseFactors n ts).bind fun p => .ok (if neg then .un 0 .neg p.1 else p.1, p.2)
  else .error .invalidSyntax

section step
variable (n : Nat) (acc : Ex) (ts : List Tok)

theorem parseEqual_succ : parseEqual (n + 1) ts =
    if !firstAdd (headType ts) then .error .invalidSyntax
    else (parseAdd n ts).bind fun p => equalLoop n p.1 p.2 := by
  rw [parseEqual]
  cases parseAdd n ts <;> rfl

theorem equalLoop_succ : equalLoop (n + 1) acc ts =
    if isEqualTok (headType ts) then
      (eat .equal ts).bind fun ts' =>
        if firstAdd (headType ts') then
          (parseAdd n ts').bind fun p => equalLoop n (.bin 0 .eq acc p.1) p.2
        else .error .unexpectedBehavior
    else .ok (acc, ts) := by
  rw [equalLoop]; split
  · cases eat .equal ts with
    | error _ => rfl
    | ok ts' =>
      simp only [ok_bind]; split
      · cases parseAdd n ts' <;> rfl
      · rfl
  · rfl

theorem parseAdd_succ : parseAdd (n + 1) ts =
    if !firstMult (headType ts) then .error .invalidSyntax
    else (parseMult n ts).bind fun p => addLoop n p.1 p.2 := by
  rw [parseAdd]
  cases parseMult n ts <;> rfl

theorem addLoop_succ : addLoop (n + 1) acc ts =
    if isAddTok (headType ts) then
      (eat (headType ts) ts).bind fun ts' =>
        if firstMult (headType ts') then
          (parseMult n ts').bind fun p =>
            addLoop n (.bin 0 (if headType ts == .plus then .add else .sub) acc p.1) p.2
        else .error .unexpectedBehavior
    else .ok (acc, ts) := by
  rw [addLoop]; split
  · cases eat (headType ts) ts with
    | error _ => rfl
    | ok ts' =>
      simp only [ok_bind]; split
      · cases parseMult n ts' <;> rfl
      · rfl
  · rfl

theorem parseMult_succ : parseMult (n + 1) ts =
    if !firstExp (headType ts) then .error .invalidSyntax
    else (parseExponent n ts).bind fun p => multLoop n p.1 p.2 := by
  rw [parseMult]
  cases parseExponent n ts <;> rfl

theorem multLoop_succ : multLoop (n + 1) acc ts =
    if isMultTok (headType ts) then
      (eat (headType ts) ts).bind fun ts' =>
        if firstExp (headType ts') then
          (if headType ts == .divide then parseExponent n ts' else parseMult n ts').bind fun p =>
            multLoop n (.bin 0 (if headType ts == .multiply then .mul else .div) acc p.1) p.2
        else .error .invalidSyntax
    else .ok (acc, ts) := by
  rw [multLoop]; split
  · cases eat (headType ts) ts with
    | error _ => rfl
    | ok ts' =>
      simp only [ok_bind]; split
      · cases (if headType ts == .divide then parseExponent n ts' else parseMult n ts') <;> rfl
      · rfl
  · rfl

theorem parseExponent_succ : parseExponent (n + 1) ts =
    if !firstUnary (headType ts) then .error .invalidSyntax
    else (parseUnary n ts).bind fun p => powTail n p.1 p.2 := by
  rw [parseExponent]; split
  · rfl
  · cases parseUnary n ts with
    | error _ => rfl
    | ok p =>
      simp only [ok_bind, powTail]; split
      · cases eat .exponent p.2 with
        | error _ => rfl
        | ok ts' =>
          simp only [ok_bind]; split
          · rfl
          · cases parseUnary n ts' <;> rfl
      · rfl

theorem parseFactors_succ : parseFactors (n + 1) ts =
    (factorsLoop n [] ts).bind fun p =>
      match p.1 with
      | [] => .error .invalidExpression
      | last :: before =>
        (powTail n last p.2).bind fun q =>
          match before.reverse ++ [q.1] with
          | [] => .error .invalidExpression
          | f0 :: fs => .ok (G.product f0 fs, q.2) := by
  rw [parseFactors]
  cases factorsLoop n [] ts with
  | error _ => rfl
  | ok p =>
    obtain ⟨rev, ts'⟩ := p
    cases rev with
    | nil => rfl
    | cons last before =>
      -- `split` would take the outer `match` first, so the tests are decided by hand
      simp only [ok_bind, powTail]
      by_cases hx : isExpTok (headType ts') = true
      · simp only [hx, if_true]
        cases eat .exponent ts' with
        | error _ => rfl
        | ok ts'' =>
          simp only [ok_bind]
          by_cases hu : (!firstUnary (headType ts'')) = true
          · simp only [hu, if_true]; rfl
          · simp only [hu, Bool.false_eq_true, if_false]
            cases parseUnary n ts'' with
            | error _ => rfl
            | ok q =>
              simp only [ok_bind, List.reverse_cons]
              cases before.reverse ++ [Ex.bin 0 .pow last q.1] <;> rfl
      · simp only [hx, Bool.false_eq_true, if_false, ok_bind, List.reverse_cons]
        cases before.reverse ++ [last] <;> rfl

theorem parseFunction_succ : parseFunction (n + 1) ts =
    (eat (headType ts) ts).bind fun ts => (eat .openParen ts).bind fun ts =>
      (parseAdd n ts).bind fun p => (eat .closeParen p.2).bind fun ts => .ok (.un 0 .sgn p.1, ts) := by
  rw [parseFunction]
  cases eat (headType ts) ts with
  | error _ => rfl
  | ok ts1 =>
    simp only [ok_bind]
    cases eat .openParen ts1 with
    | error _ => rfl
    | ok ts2 =>
      simp only [ok_bind]
      cases parseAdd n ts2 with
      | error _ => rfl
      | ok p => simp only [ok_bind]; cases eat .closeParen p.2 <;> rfl

theorem parseUnary_succ : parseUnary (n + 1) ts =
    (if headType ts == .minus then eat .minus ts else .ok ts).bind
      (unaryBody n (headType ts == .minus)) := by
  rw [parseUnary]
  generalize (headType ts == .minus) = neg
  cases (if neg = true then eat .minus ts else .ok ts) with
  | error e => rfl
  | ok ts1 =>
    -- the model tests `_FIRST_FACTOR_PREFIX`, matches on the list for a leading literal and then
    -- tests `_FIRST_FACTOR`; `unaryBody` asks once for the type of the current token.  For each type
    -- both come to the same branch
    rcases ts1 with _ | ⟨⟨ty, v⟩, tl⟩
    · rfl
    cases ty
    case constant =>
      simp +decide only [ok_bind, unaryBody, litTail, PC.headType_cons, List.headD_cons,
        eat_cons (t := ⟨.constant, v⟩) (ty := .constant) tl rfl (by decide), if_true, if_false]
      cases parseNumber v with
      | none => rfl
      | some q =>
        dsimp only [ok_bind]
        split
        · split
          · cases eat .factorial tl <;> rfl
          · cases parseFactors n tl <;> rfl
        · rfl
    case function | «variable» | openParen | factorial =>
      simp +decide only [ok_bind, unaryBody, PC.headType_cons, if_true, if_false]
      cases parseFactors n _ <;> rfl
    -- any other token: invalid syntax on both sides
    all_goals rfl

theorem parseToks_eq : parseToks ts =
    if headType ts == .eof then .error .invalidExpression
    else (parseEqual (parseFuel ts) ts).bind fun p =>
      if headType p.2 == .eof then .ok p.1 else .error .trailingTokens := by
  unfold parseToks
  cases parseEqual (parseFuel ts) ts <;> rfl

end step

section arm
variable {n : Nat}

theorem powTail_none {b ts} (h : isExpTok (headType ts) = false) :
    powTail n b ts = .ok (b, ts) := by
  rw [powTail, h]; rfl

theorem powTail_cons {b x} (hx : x.type = .exponent) (us : List Tok) :
    powTail n b (x :: us) =
      if !firstUnary (headType us) then .error .invalidSyntax
      else (parseUnary n us).bind fun p => .ok (.bin 0 .pow b p.1, p.2) := by
  rw [powTail, PC.headType_cons, hx, if_pos (by decide), eat_cons _ hx (by decide), ok_bind]

theorem powTail_some {b x us} (hx : x.type = .exponent)
    (hu : firstUnary (headType us) = true) :
    powTail n b (x :: us) = (parseUnary n us).bind fun p => .ok (.bin 0 .pow b p.1, p.2) := by
  rw [powTail_cons hx, hu]; rfl

theorem factorsNext_more {acc f ts} (h : firstFactor (headType ts) = true) :
    factorsNext n acc f ts = factorsLoop n (f :: acc) ts := by
  rw [factorsNext, if_pos h]

theorem factorsNext_stop {acc f ts} (h : firstFactor (headType ts) = false) :
    factorsNext n acc f ts = .ok (f :: acc, ts) := by
  rw [factorsNext, h]; rfl

theorem litTail_none {ce tl} (h : firstFactor (headType tl) = false) :
    litTail n ce tl = .ok (ce, tl) := by
  rw [litTail, h]; rfl

theorem litTail_fact {ce b} (hb : b.type = .factorial) (tl : List Tok) :
    litTail n ce (b :: tl) = .ok (.un 0 .fact ce, tl) := by
  rw [litTail, PC.headType_cons, hb, if_pos (by decide), if_pos (by decide), eat_cons _ hb (by decide)]
  rfl

theorem litTail_factors {ce tl} (hf : firstFactor (headType tl) = true)
    (hb : (headType tl == .factorial) = false) :
    litTail n ce tl = (parseFactors n tl).bind fun p => .ok (.bin 0 .mul ce p.1, p.2) := by
  rw [litTail, if_pos hf, hb]; rfl

theorem unaryBody_lit {neg c q} (h : G.Lit c q) (tl : List Tok) :
    unaryBody n neg (c :: tl) = litTail n (.const 0 (if neg then -q else q)) tl := by
  rw [unaryBody, PC.headType_cons, h.1, if_pos (by decide), List.headD_cons, h.2,
    eat_cons _ h.1 (by decide)]
  rfl

theorem unaryBody_factors {neg ts} (hc : (headType ts == .constant) = false)
    (hf : firstFactor (headType ts) = true) :
    unaryBody n neg ts =
      (parseFactors n ts).bind fun p => .ok (if neg then .un 0 .neg p.1 else p.1, p.2) := by
  rw [unaryBody, hc, if_neg (by decide), if_pos hf]

theorem parseUnary_minus {m} (hm : m.type = .minus) (us : List Tok) :
    parseUnary (n + 1) (m :: us) = unaryBody n true us := by
  rw [parseUnary_succ, PC.headType_cons, hm, if_pos (by decide), eat_cons _ hm (by decide), ok_bind]
  rfl

theorem parseUnary_plain {ts} (h : (headType ts == .minus) = false) :
    parseUnary (n + 1) ts = unaryBody n false ts := by
  rw [parseUnary_succ, h]
  rfl

theorem parseUnary_lit {c q} (h : G.Lit c q) (tl : List Tok) :
    parseUnary (n + 1) (c :: tl) = litTail n (.const 0 q) tl := by
  rw [parseUnary_plain (by rw [PC.headType_cons, h.1]; rfl), unaryBody_lit h]
  rfl

end arm

section turn
variable {n : Nat} {acc : Ex}

theorem equalLoop_cons {q : Tok} (hq : q.type = .equal) (tl : List Tok) :
    equalLoop (n + 1) acc (q :: tl) =
      if firstAdd (headType tl) then
        (parseAdd n tl).bind fun p => equalLoop n (.bin 0 .eq acc p.1) p.2
      else .error .unexpectedBehavior := by
  rw [equalLoop_succ, PC.headType_cons, if_pos (by rw [hq]; rfl), eat_cons tl hq (by decide), ok_bind]

theorem addLoop_cons {op : Tok} (hop : isAddTok op.type = true) (tl : List Tok) :
    addLoop (n + 1) acc (op :: tl) =
      if firstMult (headType tl) then
        (parseMult n tl).bind fun p =>
          addLoop n (.bin 0 (if op.type == .plus then .add else .sub) acc p.1) p.2
      else .error .unexpectedBehavior := by
  rw [addLoop_succ, PC.headType_cons, if_pos hop,
    eat_cons tl rfl (fun h => by rw [h] at hop; cases hop), ok_bind]

theorem multLoop_cons {op : Tok} (hop : isMultTok op.type = true) (tl : List Tok) :
    multLoop (n + 1) acc (op :: tl) =
      if firstExp (headType tl) then
        (if op.type == .divide then parseExponent n tl else parseMult n tl).bind fun p =>
          multLoop n (.bin 0 (if op.type == .multiply then .mul else .div) acc p.1) p.2
      else .error .invalidSyntax := by
  rw [multLoop_succ, PC.headType_cons, if_pos hop,
    eat_cons tl rfl (fun h => by rw [h] at hop; cases hop), ok_bind]

end turn

/-- by the type of the current token, as the source tests it (the model matches on the list); the
tests are equations, as `PS.IH.fn` and `SrcAgree.Agree.fn` state theirs for `.function` -/
theorem factorsLoop_succ (n : Nat) (acc : List Ex) (ts : List Tok) : factorsLoop (n + 1) acc ts =
    if headType ts = .variable then
      (eat .variable ts).bind fun ts1 =>
        factorsNext n acc (.var 0 ((ts.headD eofTok).value.headD 'x')) ts1
    else if headType ts = .function then
      (parseFunction n ts).bind fun p => factorsNext n acc p.1 p.2
    else if headType ts = .openParen then
      (eat .openParen ts).bind fun ts1 => (parseAdd n ts1).bind fun p =>
        (eat .closeParen p.2).bind fun ts3 => factorsNext n acc p.1 ts3
    else .error .unexpectedBehavior := by
  rcases ts with _ | ⟨⟨ty, v⟩, r⟩
  · rfl
  cases ty
  case «variable» => rw [factorsLoop]; cases eat .variable _ <;> rfl
  case function => rw [factorsLoop]; cases parseFunction n _ <;> rfl
  case openParen =>
    rw [factorsLoop]
    simp only [PC.headType_cons, reduceCtorEq, if_false, if_true]
    rcases eat .openParen _ with _ | ts1
    · rfl
    simp only [ok_bind]
    rcases parseAdd n ts1 with _ | p
    · rfl
    simp only [ok_bind]
    cases eat .closeParen p.2 <;> rfl
  all_goals rfl

end Mathy
