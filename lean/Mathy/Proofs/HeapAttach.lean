/-
Heap-level re-attachment: `parent.set_left(new)` / `parent.set_right(new)` — what
`ExpressionChangeRule.done` does through `set_side` when a rule has built its replacement.
On a heap that represents a forest of distinct objects, `q.set_side(root of s, d)` makes `q` the
head of the tree with `s` on side `d` (`Rep.setSide`); `rotate` and `clone` are sequences of such
steps.  `Rep.replaceAt_snoc` carries a change below one node up to the root of the tree around it,
so that the splice at any depth (`C07_heap_attach`) follows from what happens at one node.
-/
import Mathy.Proofs.HeapRep
namespace Mathy
open BT

theorem Heap.setSide_eq (h : Heap) (q : Nat) (c : Option Nat) (d : Dir) :
    h.setSide q c d = (h.set q ((h q).setChild d c)).setParent c (some q) := by
  cases d <;> rfl

theorem Heap.setSide_other (h : Heap) (q : Nat) (c : Option Nat) (d : Dir) (x : Nat)
    (hxq : x ≠ q) (hxc : c ≠ some x) : (h.setSide q c d) x = h x := by
  rw [Heap.setSide_eq, Heap.setParent_ne _ _ _ _ hxc, Heap.set_ne _ _ _ _ hxq]

theorem Heap.setSide_child (h : Heap) (q y : Nat) (d : Dir) (hyq : y ≠ q) :
    (h.setSide q (some y) d) y = { h y with parent := some q } := by
  rw [Heap.setSide_eq, Heap.setParent_eq, Heap.set_ne _ _ _ _ hyq]

theorem Heap.setSide_self (h : Heap) (q : Nat) (c : Option Nat) (d : Dir) (hc : c ≠ some q) :
    (h.setSide q c d) q = (h q).setChild d c := by
  rw [Heap.setSide_eq, Heap.setParent_ne _ _ _ _ hc, Heap.set_eq]

theorem Rep.setSide_attached {h : Heap} {q : Nat} {s : BT} {sp : Option Nat} (d : Dir)
    (hs : Rep h s sp) (hnd : s.ids.Nodup) (hq : q ∉ s.ids) :
    Rep (h.setSide q s.rootId d) s (some q) := by
  refine hs.reparent hnd (fun x hx hne => ?_) (fun x hx => ?_)
  · exact Heap.setSide_other _ _ _ _ _ (fun e => hq (e ▸ hx)) hne
  · rw [hx]; exact Heap.setSide_child _ _ _ _ fun e => hq (e ▸ rootId_mem hx)

/-- Nothing is assumed of what hung on side `d` of `q` before, and `s` may have hung anywhere. -/
theorem Rep.setSide {h : Heap} {q : Nat} {o s : BT} {par sp : Option Nat} (d : Dir)
    (hpar : (h q).parent = par) (hoc : (h q).child d.flip = o.rootId)
    (ho : Rep h o (some q)) (hs : Rep h s sp) (hnd : (fork q d s o).ids.Nodup) :
    Rep (h.setSide q s.rootId d) (fork q d s o) par := by
  obtain ⟨hqs, hqo, hsnd, -, hdis⟩ := nodup_fork.1 hnd
  exact rep_fork_of_setChild (Heap.setSide_self h q s.rootId d fun e => hqs (rootId_mem e)) hoc hpar
    (hs.setSide_attached d hsnd hqs) <| ho.frame fun x hx =>
      Heap.setSide_other _ _ _ _ _ (fun e => hqo (e ▸ hx)) fun e => hdis x (rootId_mem e) hx

/-- The context lemma: `g` is the node at `p`; the cells of its old `d`-child are free to change. -/
theorem Rep.replaceAt_snoc {h h' : Heap} {u' : BT} {g : Nat} (d : Dir) (hu : Rep h' u' (some g))
    (hc : h' g = (h g).setChild d u'.rootId) (p : Path) {t : BT} {par : Option Nat}
    (hr : Rep h t par) (hnd : t.ids.Nodup) (hg : (t.sub p).rootId = some g)
    (hf : ∀ a ∈ t.ids, a ∉ (t.sub (p ++ [d])).ids → a ≠ g → h' a = h a) :
    Rep h' (t.replaceAt (p ++ [d]) u') par := by
  induction p, t using path_induction generalizing par with
  | nil t =>
    rw [sub_root] at hg
    obtain ⟨x, y, rfl⟩ := exists_fork d hg
    obtain ⟨-, c2, c3, -, hy⟩ := rep_fork.1 hr
    obtain ⟨-, hgy, -, -, hxy⟩ := nodup_fork.1 hnd
    rw [List.nil_append, sub_fork, sub_root] at hf
    rw [List.nil_append, replaceAt_fork, replaceAt_root]
    exact rep_fork_of_setChild hc c2 c3 hu <| hy.frame fun a ha =>
      hf a (mem_ids_fork.2 (.inr (.inr ha))) (fun hx => hxy a hx ha) fun e => hgy (e ▸ ha)
  | cons_nil e p => rw [sub_nil] at hg; cases hg
  | cons_fork e p i x y ih =>
    rw [sub_fork] at hg
    rw [List.cons_append, sub_fork] at hf
    rw [List.cons_append, replaceAt_fork]
    obtain ⟨c1, c2, c3, hx, hy⟩ := rep_fork.1 hr
    obtain ⟨hix, -, hxnd, -, hxy⟩ := nodup_fork.1 hnd
    have hgx : g ∈ x.ids := sub_ids_subset p x g (rootId_mem hg)
    have hsub : ∀ a ∈ (x.sub (p ++ [d])).ids, a ∈ x.ids := sub_ids_subset _ x
    -- the cells of `i` and of its other sub-tree `y` are untouched: `g` and the old child lie in `x`
    have hi : h' i = h i :=
      hf i (mem_ids_fork.2 (.inl rfl)) (fun hm => hix (hsub i hm)) fun e => hix (e ▸ hgx)
    refine rep_fork.2 ⟨?_, by rw [hi]; exact c2, by rw [hi]; exact c3,
      ih hx hxnd hg fun a ha => hf a (mem_ids_fork.2 (.inr (.inl ha))),
      hy.frame fun a ha => hf a (mem_ids_fork.2 (.inr (.inr ha))) (fun hm => hxy a (hsub a hm) ha)
        fun e => hxy g hgx (e ▸ ha)⟩
    rw [hi, c1]
    exact (rootId_replaceAt x u' (by simp)).symm

end Mathy
