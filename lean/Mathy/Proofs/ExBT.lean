/-
An expression tree as a generic tree (`Ex.toBT`, node identity = tag) and a context as the path to its hole
(`ctxPath`), so that sub-tree, replacement and in-order positions can be read on either side.
-/
import Mathy.Model.HeapOps
import Mathy.Proofs.Arr
namespace Mathy

/-- A unary node hangs its operand on the right: `UnaryExpression.set_child` calls `set_right`, since
`child_on_left` defaults to False and no class of the package passes True. -/
def Ex.toBT : Ex → BT
  | .const t _ => .node t .nil .nil
  | .var t _ => .node t .nil .nil
  | .un t _ c => .node t .nil c.toBT
  | .bin t _ l r => .node t l.toBT r.toBT

theorem focusesAux_inorder (k : Ctx) (e : Ex) :
    (focusesAux k e).map (fun p => (p.2.tag, p.1.length)) = e.toBT.inorder k.length := by
  induction e generalizing k with
  | const t v => rfl
  | var t x => rfl
  | un t o c ih =>
    simp only [focusesAux, Ex.toBT, BT.inorder, List.map_cons, List.nil_append, ih, List.length_cons]
    rfl
  | bin t o l r ihl ihr =>
    simp only [focusesAux, Ex.toBT, BT.inorder, List.map_append, List.map_cons, ihl, ihr,
      List.length_cons]
    rfl

open BT

def Frame.dir : Frame → Dir
  | .binL .. => .L
  | .binR .. => .R
  | .un .. => .R

/-- path from the root to the hole of a context (contexts are innermost-first) -/
def ctxPath (k : Ctx) : Path := (k.map Frame.dir).reverse

theorem ctxPath_cons (f : Frame) (k : Ctx) : ctxPath (f :: k) = ctxPath k ++ [f.dir] := by
  simp [ctxPath]

theorem toBT_fill_sub (f : Frame) (n : Ex) (p : Path) :
    (f.fill n).toBT.sub (f.dir :: p) = n.toBT.sub p := by
  cases f <;> simp [Frame.fill, Frame.dir, Ex.toBT, sub]

theorem toBT_fill_replaceAt (f : Frame) (e e₂ : Ex) (p : Path) (s : BT)
    (h : e.toBT.replaceAt p s = e₂.toBT) :
    (f.fill e).toBT.replaceAt (f.dir :: p) s = (f.fill e₂).toBT := by
  cases f <;> simp only [Frame.fill, Frame.dir, Ex.toBT, replaceAt, h]

theorem toBT_plug_sub (k : Ctx) (n : Ex) (p : Path) :
    (plug k n).toBT.sub (ctxPath k ++ p) = n.toBT.sub p := by
  induction k generalizing n p with
  | nil => rfl
  | cons f k ih =>
    rw [ctxPath_cons, List.append_assoc, List.singleton_append, plug, ih, toBT_fill_sub]

theorem toBT_plug_replaceAt (k : Ctx) (e e₂ : Ex) (p : Path) (s : BT)
    (h : e.toBT.replaceAt p s = e₂.toBT) :
    (plug k e).toBT.replaceAt (ctxPath k ++ p) s = (plug k e₂).toBT := by
  induction k generalizing e e₂ p with
  | nil => exact h
  | cons f k ih =>
    rw [ctxPath_cons, List.append_assoc, List.singleton_append]
    exact ih _ _ _ (toBT_fill_replaceAt f e e₂ p s h)

theorem toBT_ids (e : Ex) : e.toBT.ids = e.tags := by
  induction e with
  | const | var => simp [Ex.toBT, ids, Ex.tags]
  | un t o c ih => simp [Ex.toBT, ids, Ex.tags, ih]
  | bin t o l r ihl ihr => simp [Ex.toBT, ids, Ex.tags, ihl, ihr]

theorem toBT_sub_ctxPath (k : Ctx) (n : Ex) : (plug k n).toBT.sub (ctxPath k) = n.toBT := by
  simpa [sub] using toBT_plug_sub k n []

theorem ASArr.toBT_rotateTop {k k' : Ctx} {n n' : Ex} (h : ASArr k n k' n') :
    ∃ f, k = f :: k' ∧ (f.fill n).toBT.rotateTop f.dir = n'.toBT := by
  cases h with
  | left => exact ⟨_, rfl, rfl⟩
  | right =>
    -- no `rfl`: the match of `rotateTop` looks at the left child first, here `a.toBT` with `a` abstract
    exact ⟨_, rfl, by simp only [Frame.fill, Frame.dir, Ex.toBT, rotateTop]⟩

end Mathy
