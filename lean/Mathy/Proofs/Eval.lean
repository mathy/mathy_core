/-
Refinement relations between expressions, their congruence through contexts, and the algebra of
results (`Res.bin .add`, `Res.bin .mul` are associative and commutative, errors included).
-/
import Mathy.Proofs.ExLemmas
import Mathlib.Algebra.Order.Field.Rat

namespace Mathy

/-- `y` refines `x`: only `undef` may become anything (`rref_iff`, through which the proofs use it). -/
def RRef (x y : Res) : Prop :=
  (∀ v, x = .ok v → y = .ok v) ∧ (x = .error .unequal → y = .error .unequal)

/-- `b` refines `a`: wherever `a` has a value `b` has the same value, and wherever `a` is an
equation whose sides differ so is `b`.  Stronger than "equal wherever both are defined" (a rewrite
may only enlarge the domain of definition), and transitive. -/
def Refines (a b : Ex) : Prop := ∀ env, RRef (eval env a) (eval env b)

/-- `y` has a value wherever `x` has one (not necessarily the same), and is a failed equation wherever `x` is. -/
def RHolds (x y : Res) : Prop :=
  ((∃ v, x = .ok v) → ∃ v', y = .ok v') ∧ (x = .error .unequal → y = .error .unequal)

/-- Truth refinement (for equations whose common value may change, i.e. balanced moves):
wherever `a` holds `b` holds, wherever `a` does not hold `b` does not hold. -/
def HoldsRefines (a b : Ex) : Prop := ∀ env, RHolds (eval env a) (eval env b)

theorem RRef.refl (x : Res) : RRef x x := ⟨fun _ h => h, fun h => h⟩

theorem RRef.trans {x y z : Res} (h1 : RRef x y) (h2 : RRef y z) : RRef x z :=
  ⟨fun v h => h2.1 v (h1.1 v h), fun h => h2.2 (h1.2 h)⟩

theorem Refines.refl (a : Ex) : Refines a a := fun _ => RRef.refl _

theorem Refines.trans {a b c : Ex} (h1 : Refines a b) (h2 : Refines b c) : Refines a c :=
  fun env => (h1 env).trans (h2 env)

theorem RHolds.refl (x : Res) : RHolds x x := ⟨id, id⟩

theorem HoldsRefines.refl (a : Ex) : HoldsRefines a a := fun _ => RHolds.refl _

theorem HoldsRefines.trans {a b c : Ex} (h1 : HoldsRefines a b) (h2 : HoldsRefines b c) :
    HoldsRefines a c :=
  fun env => ⟨fun h => (h2 env).1 ((h1 env).1 h), fun h => (h2 env).2 ((h1 env).2 h)⟩

theorem Refines.holds {a b : Ex} (h : Refines a b) : HoldsRefines a b :=
  fun env => ⟨fun ⟨v, hv⟩ => ⟨v, (h env).1 v hv⟩, (h env).2⟩

/-- the same result at every assignment, errors included; `EvalEq ⇒ Refines ⇒ HoldsRefines` (`.refines`, `.holds`) -/
def EvalEq (a b : Ex) : Prop := ∀ env, eval env a = eval env b

theorem EvalEq.refl (a : Ex) : EvalEq a a := fun _ => rfl

theorem EvalEq.trans {a b c : Ex} (h1 : EvalEq a b) (h2 : EvalEq b c) : EvalEq a c :=
  fun env => (h1 env).trans (h2 env)

theorem EvalEq.bin (t t' : Nat) (o : Bop) {l l' r r' : Ex} (hl : EvalEq l l') (hr : EvalEq r r') :
    EvalEq (.bin t o l r) (.bin t' o l' r') := fun env => by
  simp only [eval, hl env, hr env]

theorem EvalEq.un (t t' : Nat) (o : Uop) {c c' : Ex} (h : EvalEq c c') :
    EvalEq (.un t o c) (.un t' o c') := fun env => by
  simp only [eval, h env]

theorem EvalEq.refines {a b : Ex} (h : EvalEq a b) : Refines a b :=
  fun env => by rw [h env]; exact RRef.refl _

theorem eval_eq_ok (env : Env) (t : Nat) (a b : Ex) (v : Rat) :
    eval env (.bin t .eq a b) = .ok v ↔ eval env a = .ok v ∧ eval env b = .ok v := by
  simp only [eval]
  rcases eval env a with e | x <;> rcases eval env b with e' | y
  case ok.ok =>
    by_cases hxy : x = y
    · simp [Res.bin, evalBop, hxy]
    · simp only [Res.bin, evalBop, hxy, if_false, reduceCtorEq, false_iff, not_and, Except.ok.injEq]
      rintro rfl h
      exact hxy h.symm
  all_goals simp [Res.bin]

theorem evalEq_clone (e : Ex) : EvalEq e.clone e := fun env => eval_clone env e

theorem rref_iff {x y : Res} : RRef x y ↔ x = .error .undef ∨ y = x := by
  constructor
  · intro h
    rcases x with (_ | _) | a
    · exact .inl rfl
    · exact .inr (h.2 rfl)
    · exact .inr (h.1 a rfl)
  · rintro (rfl | rfl)
    · exact ⟨fun _ h => (nomatch h), fun h => (nomatch h)⟩
    · exact RRef.refl _

theorem rholds_eq_ok {a b a' b' : Rat} (h : a = b ↔ a' = b') :
    RHolds (Res.bin .eq (.ok a) (.ok b)) (Res.bin .eq (.ok a') (.ok b')) := by
  by_cases hab : a = b
  · simp [RHolds, Res.bin, evalBop, hab, h.mp hab]
  · simp [RHolds, Res.bin, evalBop, hab, mt h.mpr hab]

theorem RRef.un {x y : Res} (h : RRef x y) (o : Uop) : RRef (Res.un o x) (Res.un o y) := by
  rcases rref_iff.mp h with rfl | rfl
  · exact rref_iff.mpr (.inl rfl)
  · exact RRef.refl _

/- An undefined operand leaves the result undefined, unless the other operand is a failed equation,
which wins whatever the first operand is. -/
theorem RRef.binL {x y : Res} (h : RRef x y) (o : Bop) (z : Res) :
    RRef (Res.bin o x z) (Res.bin o y z) := by
  rcases rref_iff.mp h with rfl | rfl
  · rcases z with (_ | _) | c
    · exact rref_iff.mpr (.inl rfl)
    · exact rref_iff.mpr (.inr (by rcases y with (_ | _) | b <;> rfl))
    · exact rref_iff.mpr (.inl rfl)
  · exact RRef.refl _

theorem RRef.binR {x y : Res} (h : RRef x y) (o : Bop) (z : Res) :
    RRef (Res.bin o z x) (Res.bin o z y) := by
  rcases rref_iff.mp h with rfl | rfl
  · rcases z with (_ | _) | c
    · exact rref_iff.mpr (.inl rfl)
    · exact rref_iff.mpr (.inr (by rcases y with (_ | _) | b <;> rfl))
    · exact rref_iff.mpr (.inl rfl)
  · exact RRef.refl _

theorem Refines.fill {a b : Ex} (h : Refines a b) (f : Frame) : Refines (f.fill a) (f.fill b) := by
  intro env
  cases f with
  | binL t o r => exact (h env).binL o _
  | binR t o l => exact (h env).binR o _
  | un t o => exact (h env).un o

theorem Refines.plug {a b : Ex} (h : Refines a b) (k : Ctx) : Refines (plug k a) (plug k b) :=
  plug_congr (fun f _ _ h => h.fill f) h k

theorem EvalEq.plug {a b : Ex} (h : EvalEq a b) (k : Ctx) : EvalEq (plug k a) (plug k b) :=
  plug_congr (fun f _ _ h env => by cases f <;> simp only [Frame.fill, eval, h env]) h k

/-! `Res.bin .add` and `Res.bin .mul` lift the rational operations over the join of errors
(`Bad.worse`: a failed equation wins), so their laws are equalities of results, errors included.
With the four instances `ac_rfl` proves equal any two sums (products) of results that differ by
bracketing and order of the operands. -/

namespace Bad
theorem worse_comm (a b : Bad) : a.worse b = b.worse a := by cases a <;> cases b <;> rfl
theorem worse_assoc (a b c : Bad) : (a.worse b).worse c = a.worse (b.worse c) := by
  cases a <;> cases b <;> cases c <;> rfl
theorem worse_left_comm (a b c : Bad) : a.worse (b.worse c) = b.worse (a.worse c) := by
  cases a <;> cases b <;> cases c <;> rfl
@[simp] theorem worse_self (a : Bad) : a.worse a = a := by cases a <;> rfl
@[simp] theorem worse_undef (a : Bad) : a.worse .undef = a := by cases a <;> rfl
@[simp] theorem worse_self_left (a b : Bad) : a.worse (a.worse b) = a.worse b := by
  cases a <;> cases b <;> rfl
end Bad

theorem Res.bin_comm {o : Bop} (h : ∀ a b, evalBop o a b = evalBop o b a) (X Y : Res) :
    Res.bin o X Y = Res.bin o Y X := by
  rcases X with e | a <;> rcases Y with e' | b
  · exact congrArg _ (Bad.worse_comm e e')
  · rfl
  · rfl
  · exact h a b

theorem Res.bin_assoc {o : Bop} {f : Rat → Rat → Rat} (hf : ∀ a b, evalBop o a b = .ok (f a b))
    (h : ∀ a b c, f (f a b) c = f a (f b c)) (X Y Z : Res) :
    Res.bin o (Res.bin o X Y) Z = Res.bin o X (Res.bin o Y Z) := by
  rcases X with e | a <;> rcases Y with e' | b <;> rcases Z with e'' | c <;>
    simp only [Res.bin, hf, h, Bad.worse_assoc]

instance : Std.Commutative (Res.bin .add) := ⟨Res.bin_comm fun a b => congrArg _ (add_comm a b)⟩
instance : Std.Commutative (Res.bin .mul) := ⟨Res.bin_comm fun a b => congrArg _ (mul_comm a b)⟩
instance : Std.Associative (Res.bin .add) := ⟨Res.bin_assoc (fun _ _ => rfl) add_assoc⟩
instance : Std.Associative (Res.bin .mul) := ⟨Res.bin_assoc (fun _ _ => rfl) mul_assoc⟩

theorem res_assoc {o : Bop} (ho : o = .add ∨ o = .mul) (X Y Z : Res) :
    Res.bin o (Res.bin o X Y) Z = Res.bin o X (Res.bin o Y Z) := by
  rcases ho with rfl | rfl <;> exact Std.Associative.assoc ..

theorem res_eq_comm (X Y : Res) : Res.bin .eq X Y = Res.bin .eq Y X :=
  Res.bin_comm (fun a b => by by_cases h : a = b <;> simp [evalBop, h, eq_comm (a := b)]) X Y

/-- Oriented to split a constant product into a product of results (the converse of `res_bin_ok_ok` at `*`). -/
theorem res_mul_ok (a b : Rat) : (.ok (a * b) : Res) = Res.bin .mul (.ok a) (.ok b) := rfl
theorem res_neg_ok (a : Rat) : Res.un .neg (.ok a) = .ok (-a) := rfl

@[simp] theorem res_one_mul (R : Res) : Res.bin .mul (.ok 1) R = R := by
  rcases R with e | p <;> simp [Res.bin, evalBop]

@[simp] theorem res_bin_ok_ok (o : Bop) (a b : Rat) : Res.bin o (.ok a) (.ok b) = evalBop o a b := rfl

theorem res_neg_eq (R : Res) : Res.un .neg R = Res.bin .mul (.ok (-1)) R := by
  rcases R with e | p <;> simp [Res.bin, Res.un, evalBop, evalUop]

theorem res_add_zero (X : Res) : Res.bin .add X (.ok 0) = X := by
  rcases X with (_|_)|x <;> simp [Res.bin, evalBop]

theorem res_mul_mul_mul_comm (A B C D : Res) :
    Res.bin .mul (Res.bin .mul A B) (Res.bin .mul C D)
      = Res.bin .mul (Res.bin .mul A C) (Res.bin .mul B D) := by ac_rfl

theorem res_mul_add (A B C : Res) :
    Res.bin .mul A (Res.bin .add B C) = Res.bin .add (Res.bin .mul A B) (Res.bin .mul A C) := by
  rcases A with e | a
  · -- a failed `A` is joined once on the left and twice on the right: `worse` is idempotent
    rcases B with e' | b <;> rcases C with e'' | c <;>
      simp only [Res.bin, evalBop, Bad.worse_comm, Bad.worse_left_comm, Bad.worse_self, Bad.worse_self_left]
  · rcases B with e' | b <;> rcases C with e'' | c <;> simp only [Res.bin, evalBop, mul_add]

theorem res_sub_eq (A B : Res) : Res.bin .sub A B = Res.bin .add A (Res.un .neg B) := by
  rcases A with e | a <;> rcases B with e' | b <;>
    simp [Res.bin, Res.un, evalBop, evalUop, sub_eq_add_neg]

theorem res_neg_mul (v : Rat) (X : Res) :
    Res.un .neg (Res.bin .mul (.ok v) X) = Res.bin .mul (.ok (-v)) X := by
  rcases X with e | a <;> simp [Res.un, Res.bin, evalUop, evalBop]

theorem res_div_eq (A B : Res) :
    Res.bin .div A B = Res.bin .mul A (Res.bin .div (.ok 1) B) := by
  rcases B with e' | b
  · rcases A with e | a <;> rfl
  · by_cases hb : b = 0 <;> rcases A with e | a <;> simp [Res.bin, evalBop, hb, div_eq_mul_inv]

theorem res_div_neg_eq (A B : Res) :
    Res.bin .div A (Res.un .neg B) = Res.bin .mul A (Res.bin .div (.ok (-1)) B) := by
  rcases B with e' | b
  · rcases A with e | a <;> rfl
  · by_cases hb : b = 0 <;> rcases A with e | a <;>
      simp [Res.bin, Res.un, evalBop, evalUop, hb, div_eq_mul_inv]

theorem res_mul_div_assoc (X Y Z : Res) :
    Res.bin .mul X (Res.bin .div Y Z) = Res.bin .div (Res.bin .mul X Y) Z := by
  rw [res_div_eq Y, res_div_eq (Res.bin .mul X Y)]
  exact (res_assoc (.inr rfl) ..).symm

theorem evalEq_mul_assoc (a b c : Ex) :
    EvalEq (.bin 0 .mul a (.bin 0 .mul b c)) (.bin 0 .mul (.bin 0 .mul a b) c) :=
  fun _ => (res_assoc (.inr rfl) ..).symm

theorem evalEq_mul_div_assoc (a b c : Ex) :
    EvalEq (.bin 0 .mul a (.bin 0 .div b c)) (.bin 0 .div (.bin 0 .mul a b) c) :=
  fun _ => res_mul_div_assoc ..

end Mathy
