/-
Soundness of variable-multiply: x^a * x^b => x^(a+b) with coefficients, three arrangements.
-/
import Mathy.Proofs.Terms
import Mathy.Proofs.Arr
namespace Mathy

theorem eval_vmPower (env : Env) (x : Char) (lt rt : TermEx) :
    eval env (vmPower x lt rt) = evalPow (env x) (lt.exp.getD 1 + rt.exp.getD 1) := by
  simp [vmPower, eval, Res.bin, evalBop]

theorem vmCoefs_prod (lt rt : TermEx) : (vmCoefs lt rt).prod = lt.coef.getD 1 * rt.coef.getD 1 := by
  unfold vmCoefs
  split <;> simp [*]

/-- In every arrangement the product is the two terms multiplied inside a context `kw` of the kept
factor, and the result is the product of the coefficients times the power inside the same context. -/
theorem VMArr.eval_wrap {n ln rn : Ex} {wrap : List Rat → Ex → Ex} (h : VMArr n ln rn wrap)
    (env : Env) (lt rt : TermEx) (p : Ex) :
    ∃ kw, eval env n = eval env (plug kw (.bin 0 .mul ln rn)) ∧
      eval env (wrap (vmCoefs lt rt) p)
        = eval env (plug kw (.bin 0 .mul (.const 0 (vmCoefs lt rt).prod) p)) := by
  cases h with
  | simple =>
    refine ⟨[], rfl, ?_⟩
    obtain hc | ⟨a, hc⟩ | ⟨a, b, hc⟩ := vmCoefs_cases lt rt <;> rw [hc] <;>
      simp only [List.prod_cons, List.prod_nil, mul_one, vmWrapSimple, plug, eval, res_mul_ok, res_one_mul]
  | @chained _ _ _ _ keep =>
    refine ⟨[.binL 0 .mul keep], ?_, ?_⟩
    · simp only [plug, Frame.fill, eval]
      ac_rfl
    · obtain hc | ⟨a, hc⟩ | ⟨a, b, hc⟩ := vmCoefs_cases lt rt <;> rw [hc] <;>
        simp only [List.prod_cons, List.prod_nil, mul_one, vmWrapChained, plug, Frame.fill, eval, res_mul_ok,
          res_one_mul]
      all_goals ac_rfl
  | @chainedLeftRight _ _ keep _ _ =>
    refine ⟨[.binR 0 .mul keep], ?_, ?_⟩
    · simp only [plug, Frame.fill, eval]
      ac_rfl
    · obtain hc | ⟨a, hc⟩ | ⟨a, b, hc⟩ := vmCoefs_cases lt rt <;> rw [hc] <;>
        simp only [List.prod_cons, List.prod_nil, mul_one, vmWrapCLR, plug, Frame.fill, eval, res_mul_ok,
          res_one_mul]
      all_goals ac_rfl

theorem vm_core {ln rn : Ex} {lt rt : TermEx} {x : Char} (hl : getTermEx false ln = some lt)
    (hr : getTermEx false rn = some rt) (hx : lt.var = some x) (hxr : rt.var = some x) :
    Refines (.bin 0 .mul ln rn) (.bin 0 .mul (.const 0 (vmCoefs lt rt).prod) (vmPower x lt rt)) := by
  intro env
  simp only [eval, getTermEx_sound env hl, getTermEx_sound env hr, TermEx.res_of_var env hx,
    TermEx.res_of_var env hxr, eval_vmPower, vmCoefs_prod, res_mul_ok]
  rw [res_mul_mul_mul_comm]
  exact (r_pow_add (env x) _ _).binR .mul _

theorem vmApply_sound {k k' : Ctx} {n n' : Ex}
    (h : vmApply k n = .ok (k', n')) : Refines (plug k n) (plug k' n') := by
  obtain ⟨rfl, ln, rn, lt, rt, wrap, x, d⟩ := vmApply_inv h
  rw [d.result]
  refine Refines.plug (fun env => ?_) _
  obtain ⟨kw, e1, e2⟩ := d.arr.eval_wrap env lt rt (vmPower x lt rt)
  rw [e1, e2]
  exact (vm_core d.left d.right d.leftVar d.rightVar).plug kw env

end Mathy
