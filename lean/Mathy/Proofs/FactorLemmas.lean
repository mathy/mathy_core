/-
What `factor` (`Model/Util.lean`) puts into its table: one description of the entries and one of the
keys, from which "every entry multiplies back", "no key below 1" and "the keys of `factor n` are the
divisors of `n`" are read off.
-/
import Mathy.Model.Util
import Mathlib.Tactic.SplitIfs
import Mathlib.Tactic.FieldSimp
import Mathlib.Tactic.Linarith
import Mathlib.Algebra.Order.Field.Rat
namespace Mathy

theorem mem_dictSet {d : List (Rat × Rat)} {k w : Rat} {p : Rat × Rat} (h : p ∈ dictSet d k w) :
    p = (k, w) ∨ p ∈ d := by
  induction d with
  | nil => simpa [dictSet] using h
  | cons x xs ih =>
    unfold dictSet at h
    split at h
    · next hk =>
      rcases List.mem_cons.mp h with h | h
      · exact .inl (hk ▸ h)
      · exact .inr (List.mem_cons_of_mem _ h)
    · rcases List.mem_cons.mp h with h | h
      · exact .inr (h ▸ List.mem_cons_self)
      · exact (ih h).imp_right (List.mem_cons_of_mem _)

theorem mem_keys_dictSet (d : List (Rat × Rat)) (k w q : Rat) :
    q ∈ (dictSet d k w).map (·.1) ↔ q = k ∨ q ∈ d.map (·.1) := by
  induction d with
  | nil => simp [dictSet]
  | cons x xs ih =>
    unfold dictSet
    split
    · next hk => subst hk; simp
    · rw [List.map_cons, List.mem_cons, ih, List.map_cons, List.mem_cons, or_left_comm]

def DictOk (v : Rat) (d : List (Rat × Rat)) : Prop := ∀ p ∈ d, p.1 * p.2 = v

theorem dictGet_ok {v k w : Rat} {d : List (Rat × Rat)} (hd : DictOk v d)
    (h : dictGet? d k = some w) : k * w = v := by
  induction d with
  | nil => simp [dictGet?] at h
  | cons x xs ih =>
    obtain ⟨k', v'⟩ := x
    unfold dictGet? at h
    split at h
    · next hk =>
      obtain rfl := Option.some.inj h
      exact hk ▸ hd (k', v') List.mem_cons_self
    · exact ih (fun q hq => hd q (by simp [hq])) h

theorem dictHas_iff (d : List (Rat × Rat)) (k : Rat) : dictHas d k = true ↔ k ∈ d.map (·.1) := by
  induction d with
  | nil => simp [dictHas, dictGet?]
  | cons x xs ih =>
    obtain ⟨k', v'⟩ := x
    unfold dictHas dictGet?
    by_cases hk : k' = k
    · simp [hk]
    · have hk' : ¬ k = k' := fun h => hk h.symm
      simpa [hk, hk', dictHas] using ih

/-- the test of the loop of `factor` on the index `i` -/
abbrev FactorHit (v : Rat) (i : Nat) : Prop :=
  ((i * i : Nat) : Rat) ≤ v ∧ v.den = 1 ∧ v.num % (i : Int) = 0

theorem mem_foldl_factorStep {v : Rat} (l : List Nat) (d : List (Rat × Rat)) {p : Rat × Rat}
    (h : p ∈ l.foldl (factorStep v) d) :
    p ∈ d ∨ ∃ i ∈ l, FactorHit v i ∧ (p = ((i : Rat), v / i) ∨ p = (v / i, (i : Rat))) := by
  induction l generalizing d with
  | nil => exact .inl h
  | cons i is ih =>
    rcases ih _ h with h | ⟨j, hj, h⟩
    · unfold factorStep at h
      split at h
      · next hg =>
        rcases mem_dictSet h with h | h
        · exact .inr ⟨i, by simp, hg, .inr h⟩
        · rcases mem_dictSet h with h | h
          · exact .inr ⟨i, by simp, hg, .inl h⟩
          · exact .inl h
      · exact .inl h
    · exact .inr ⟨j, by simp [hj], h⟩

theorem mem_keys_factorStep (v : Rat) (d : List (Rat × Rat)) (i : Nat) (q : Rat) :
    q ∈ (factorStep v d i).map (·.1) ↔ q ∈ d.map (·.1) ∨ FactorHit v i ∧ (q = i ∨ q = v / i) := by
  unfold factorStep
  split_ifs with hg
  · simp only [mem_keys_dictSet]; tauto
  · simp [hg]

theorem mem_keys_foldl_factorStep {v : Rat} (l : List Nat) (d : List (Rat × Rat)) (q : Rat) :
    q ∈ (l.foldl (factorStep v) d).map (·.1) ↔
      q ∈ d.map (·.1) ∨ ∃ i ∈ l, FactorHit v i ∧ (q = i ∨ q = v / i) := by
  induction l generalizing d with
  | nil => simp
  | cons i is ih =>
    rw [List.foldl_cons, ih, mem_keys_factorStep, or_assoc]
    simp only [List.mem_cons, exists_eq_or_imp]

theorem mem_factor {v : Rat} {p : Rat × Rat} (h : p ∈ factor v) :
    p = (1, v) ∨ p = (v, 1) ∨ ∃ i : Nat, 2 ≤ i ∧ (p = ((i : Rat), v / i) ∨ p = (v / i, (i : Rat))) := by
  unfold factor at h
  split_ifs at h
  · simp at h
  · exact .inl (List.mem_singleton.mp h)
  · rcases mem_foldl_factorStep _ _ h with h | ⟨i, hi, -, h⟩
    · rcases mem_dictSet h with h | h
      · exact .inr (.inl h)
      · exact .inl (List.mem_singleton.mp h)
    · exact .inr (.inr ⟨i, (List.mem_range'_1.mp hi).1, h⟩)

theorem mem_keys_factor {v : Rat} (hv : 0 < v) (q : Rat) :
    q ∈ (factor v).map (·.1) ↔
      q = 1 ∨ q = v ∨ ∃ i ∈ List.range' 2 (v.floor.toNat - 1), FactorHit v i ∧ (q = i ∨ q = v / i) := by
  unfold factor
  rw [if_neg hv.ne', if_neg (not_lt.mpr hv.le), mem_keys_foldl_factorStep]
  simp only [mem_keys_dictSet, List.map_nil, List.not_mem_nil, or_false]
  rw [or_comm (a := q = v), or_assoc]

theorem factor_ok (v : Rat) : DictOk v (factor v) := by
  intro p hp
  rcases mem_factor hp with rfl | rfl | ⟨i, hi, h⟩
  · simp
  · simp
  · have hi0 : (i : Rat) ≠ 0 := by exact_mod_cast (by omega : i ≠ 0)
    rcases h with rfl | rfl <;> field_simp

theorem factor_keys {v : Rat} (hv : 1 ≤ v) :
    (∀ k ∈ (factor v).map (·.1), (1 : Rat) ≤ k) ∧ (1 : Rat) ∈ (factor v).map (·.1) := by
  have h0 : 0 < v := by linarith
  refine ⟨fun k hk => ?_, (mem_keys_factor h0 1).mpr (.inl rfl)⟩
  rcases (mem_keys_factor h0 k).mp hk with rfl | rfl | ⟨i, hi, ⟨hle, -⟩, h⟩
  · exact le_rfl
  · exact hv
  · have h2 : (2 : Rat) ≤ i := by exact_mod_cast (List.mem_range'_1.mp hi).1
    rcases h with rfl | rfl
    · linarith
    · rw [le_div_iff₀ (by linarith)]
      push_cast at hle
      nlinarith

theorem natCast_div_of_dvd {n i : Nat} (hi : 0 < i) (h : i ∣ n) :
    (n : Rat) / (i : Rat) = ((n / i : Nat) : Rat) := by
  obtain ⟨q, rfl⟩ := h
  have hi0 : (i : Rat) ≠ 0 := by exact_mod_cast hi.ne'
  rw [Nat.mul_div_cancel_left q hi]
  push_cast
  field_simp

theorem floor_toNat_natCast (n : Nat) : (n : Rat).floor.toNat = n := by
  rw [← Int.cast_natCast, Rat.floor_intCast, Int.toNat_natCast]

theorem factorHit_natCast (n i : Nat) : FactorHit n i ↔ i * i ≤ n ∧ i ∣ n := by
  simp only [FactorHit, Rat.den_natCast, Rat.num_natCast, true_and, Nat.cast_le,
    Int.natCast_dvd_natCast.symm, Int.dvd_iff_emod_eq_zero]

theorem factor_has_key_iff {n d : Nat} (hn : 0 < n) :
    (∃ q : Rat, dictGet? (factor (n : Rat)) (d : Rat) = some q) ↔ d ∣ n := by
  rw [← Option.isSome_iff_exists, ← dictHas, dictHas_iff, mem_keys_factor (by exact_mod_cast hn),
    floor_toNat_natCast]
  simp only [factorHit_natCast, List.mem_range'_1]
  constructor
  · rintro (h | h | ⟨i, hi, ⟨-, hdvd⟩, h | h⟩)
    · rw [show d = 1 by exact_mod_cast h]; exact one_dvd n
    · rw [show d = n by exact_mod_cast h]
    · rwa [show d = i by exact_mod_cast h]
    · rw [natCast_div_of_dvd (by omega) hdvd] at h
      rw [show d = n / i by exact_mod_cast h]
      exact Nat.div_dvd_of_dvd hdvd
  · -- of a divisor pair `d * q = n` the smaller one is a loop index that passes the test
    rintro ⟨q, hq⟩
    have hd0 : 0 < d := Nat.pos_of_mul_pos_right (hq ▸ hn)
    have hq0 : 0 < q := Nat.pos_of_mul_pos_left (hq ▸ hn)
    have hdn : d ≤ n := hq ▸ Nat.le_mul_of_pos_right d hq0
    have hqn : q ≤ n := hq ▸ Nat.le_mul_of_pos_left q hd0
    by_cases h1 : d = 1
    · exact .inl (by exact_mod_cast h1)
    by_cases hq1 : q = 1
    · exact .inr (.inl (by simp [hq, hq1]))
    refine .inr (.inr ?_)
    have hqd : q ∣ n := ⟨d, hq.trans (Nat.mul_comm d q)⟩
    rcases Nat.le_total d q with hle | hle
    · exact ⟨d, by omega, ⟨hq ▸ Nat.mul_le_mul_left d hle, q, hq⟩, .inl rfl⟩
    · refine ⟨q, by omega, ⟨hq ▸ Nat.mul_le_mul_right q hle, hqd⟩, .inr ?_⟩
      rw [natCast_div_of_dvd hq0 hqd, hq, Nat.mul_div_cancel d hq0]

end Mathy
