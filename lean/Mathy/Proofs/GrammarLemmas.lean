/-
Facts about the grammar alone.  `PC`, for the parser proofs: the token classes a derivation can start
with (`StartsWith`) and be followed by (`cont*`), and which derivations end in a literal or `!`
(`G.endsClosed`).  `PP`, for whoever builds derivations (printer, problem texts, term texts): the
levels numbered from the innermost (`Der`), a literal with an optional sign (`SLit`), and what is
appended to an operator loop.
-/
import Mathy.Spec.Grammar
namespace Mathy

theorem PC.headType_cons (t : Tok) (l : List Tok) : headType (t :: l) = t.type := rfl

namespace PC

def primStart (t : TT) : Bool := t == .variable || t == .function || t == .openParen
def unaryStart (t : TT) : Bool := primStart t || t == .constant || t == .minus

/-- what may follow an `ExpE` / `MultE` / `AddE` / `EqualE` for the parser to stop there -/
def contE (t : TT) : Bool := !firstFactor t && !isExpTok t
def contM (t : TT) : Bool := contE t && !isMultTok t
def contA (t : TT) : Bool := contM t && !isAddTok t
def contQ (t : TT) : Bool := contA t && !isEqualTok t

variable {t : TT}

theorem primStart_iff : primStart t = true ↔ t = .variable ∨ t = .function ∨ t = .openParen := by
  simp only [primStart, Bool.or_eq_true, beq_iff_eq, or_assoc]

theorem primStart_firstFactor (h : primStart t = true) : firstFactor t = true := by
  rcases primStart_iff.1 h with rfl | rfl | rfl <;> rfl
theorem primStart_unaryStart (h : primStart t = true) : unaryStart t = true := by
  simp only [unaryStart, h, Bool.true_or]
theorem primStart_not_factorial (h : primStart t = true) : (t == .factorial) = false := by
  rcases primStart_iff.1 h with rfl | rfl | rfl <;> rfl
theorem primStart_not_minus (h : primStart t = true) : (t == .minus) = false := by
  rcases primStart_iff.1 h with rfl | rfl | rfl <;> rfl
theorem primStart_not_constant (h : primStart t = true) : (t == .constant) = false := by
  rcases primStart_iff.1 h with rfl | rfl | rfl <;> rfl

theorem unaryStart_firstUnary (h : unaryStart t = true) : firstUnary t = true := by
  simp only [unaryStart, Bool.or_eq_true, beq_iff_eq] at h
  rcases h with (h | rfl) | rfl
  · simp only [firstUnary, firstFactorPrefix, primStart_firstFactor h, Bool.true_or]
  · rfl
  · rfl
theorem unaryStart_not_eof (h : unaryStart t = true) : (t == .eof) = false := by
  simp only [unaryStart, Bool.or_eq_true, beq_iff_eq] at h
  rcases h with (h | rfl) | rfl
  · rcases primStart_iff.1 h with rfl | rfl | rfl <;> rfl
  · rfl
  · rfl

theorem contE_ff (h : contE t = true) : firstFactor t = false := by
  simp only [contE, Bool.and_eq_true, Bool.not_eq_true'] at h; exact h.1
theorem contE_exp (h : contE t = true) : isExpTok t = false := by
  simp only [contE, Bool.and_eq_true, Bool.not_eq_true'] at h; exact h.2
theorem contM_contE (h : contM t = true) : contE t = true := by
  simp only [contM, Bool.and_eq_true] at h; exact h.1
theorem contM_mult (h : contM t = true) : isMultTok t = false := by
  simp only [contM, Bool.and_eq_true, Bool.not_eq_true'] at h; exact h.2
theorem contA_contM (h : contA t = true) : contM t = true := by
  simp only [contA, Bool.and_eq_true] at h; exact h.1
theorem contA_add (h : contA t = true) : isAddTok t = false := by
  simp only [contA, Bool.and_eq_true, Bool.not_eq_true'] at h; exact h.2
theorem contQ_contA (h : contQ t = true) : contA t = true := by
  simp only [contQ, Bool.and_eq_true] at h; exact h.1
theorem contQ_eq (h : contQ t = true) : isEqualTok t = false := by
  simp only [contQ, Bool.and_eq_true, Bool.not_eq_true'] at h; exact h.2

def StartsWith (P : TT → Bool) (ts : List Tok) : Prop := ∃ t tl, ts = t :: tl ∧ P t.type = true

theorem StartsWith.head {P : TT → Bool} {ts : List Tok} (h : StartsWith P ts) (r : List Tok) :
    P (headType (ts ++ r)) = true := by
  obtain ⟨t, tl, rfl, h⟩ := h; exact h

theorem StartsWith.ne_nil {P : TT → Bool} {ts : List Tok} (h : StartsWith P ts) : ts ≠ [] := by
  obtain ⟨t, tl, rfl, _⟩ := h; simp

theorem StartsWith.append {P : TT → Bool} {ts : List Tok} (h : StartsWith P ts) (r : List Tok) :
    StartsWith P (ts ++ r) := by
  obtain ⟨t, tl, rfl, h⟩ := h; exact ⟨t, tl ++ r, rfl, h⟩

theorem StartsWith.mono {P Q : TT → Bool} (hpq : ∀ {t}, P t = true → Q t = true) {ts : List Tok}
    (h : StartsWith P ts) : StartsWith Q ts := by
  obtain ⟨t, tl, rfl, h⟩ := h; exact ⟨t, tl, rfl, hpq h⟩

theorem startsWith_cons {P : TT → Bool} (t : Tok) (tl : List Tok) (h : P t.type = true) :
    StartsWith P (t :: tl) := ⟨t, tl, rfl, h⟩

theorem StartsWith.firstUnary {ts : List Tok} (h : StartsWith unaryStart ts) (r : List Tok) :
    firstUnary (headType (ts ++ r)) = true := unaryStart_firstUnary (h.head r)

theorem endsClosed_singleton (t : Tok) :
    G.endsClosed [t] = (t.type == .constant || t.type == .factorial) := rfl

theorem endsClosed_append (a : List Tok) {b : List Tok} (hb : b ≠ []) :
    G.endsClosed (a ++ b) = G.endsClosed b := by
  unfold G.endsClosed
  rw [List.getLast?_append, List.getLast?_eq_some_getLast hb]
  rfl

theorem endsClosed_append_of (a : List Tok) {b : List Tok} (h : G.endsClosed b = true) :
    G.endsClosed (a ++ b) = true := by
  have hb : b ≠ [] := by
    rintro rfl
    cases h
  rw [endsClosed_append a hb, h]

theorem endsClosed_cons_of (t : Tok) {b : List Tok} (h : G.endsClosed b = true) :
    G.endsClosed (t :: b) = true := endsClosed_append_of [t] h

theorem hd_Prim {ts e} (h : G.Prim ts e) : StartsWith primStart ts := by
  cases h with
  | var t h => exact startsWith_cons _ _ (by simp [primStart, h])
  | fn f o c hf ho hc a => exact startsWith_cons _ _ (by simp [primStart, hf])
  | paren o c ho hc a => exact startsWith_cons _ _ (by simp [primStart, ho])

theorem hd_PrimSeq {ts es} (h : G.PrimSeq ts es) : StartsWith primStart ts := by
  cases h with
  | one a => exact hd_Prim a
  | cons a b => exact (hd_Prim a).append _

theorem hd_Factors {ts e} (h : G.Factors ts e) : StartsWith primStart ts := by
  cases h with
  | plain a => exact hd_PrimSeq a
  | pow x hx a b c => exact (hd_PrimSeq a).append _

theorem hd_UnaryE {ts e} (h : G.UnaryE ts e) : StartsWith unaryStart ts := by
  cases h with
  | lit c q h => exact startsWith_cons _ _ (by simp [unaryStart, h.1])
  | negLit m c q hm h => exact startsWith_cons _ _ (by simp [unaryStart, hm])
  | fact c b q h hb => exact startsWith_cons _ _ (by simp [unaryStart, h.1])
  | negFact m c b q hm h hb => exact startsWith_cons _ _ (by simp [unaryStart, hm])
  | litFactors c q h a => exact startsWith_cons _ _ (by simp [unaryStart, h.1])
  | negLitFactors m c q hm h a => exact startsWith_cons _ _ (by simp [unaryStart, hm])
  | factors a => exact (hd_Factors a).mono primStart_unaryStart
  | negFactors m hm a => exact startsWith_cons _ _ (by simp [unaryStart, hm])

theorem hd_ExpE {ts e} (h : G.ExpE ts e) : StartsWith unaryStart ts := by
  cases h with
  | unary a => exact hd_UnaryE a
  | pow x hx a hc b => exact (hd_UnaryE a).append _

theorem hd_MultE {ts e} (h : G.MultE ts e) : StartsWith unaryStart ts := by
  cases h with
  | mk a b => exact (hd_ExpE a).append _

theorem hd_AddE {ts e} (h : G.AddE ts e) : StartsWith unaryStart ts := by
  cases h with
  | mk a b => exact (hd_MultE a).append _

theorem hd_EqualE {ts e} (h : G.EqualE ts e) : StartsWith unaryStart ts := by
  cases h with
  | mk a b => exact (hd_AddE a).append _

theorem cont_MultLoop {acc ts e} (h : G.MultLoop acc ts e) {rest : List Tok}
    (hr : contM (headType rest) = true) : contE (headType (ts ++ rest)) = true := by
  cases h with
  | done => exact contM_contE hr
  | div d hd =>
    rw [List.cons_append, List.cons_append, headType_cons, hd]
    rfl
  | mul m hm =>
    rw [List.cons_append, headType_cons, hm]
    rfl

theorem cont_AddLoop {acc ts e} (h : G.AddLoop acc ts e) {rest : List Tok}
    (hr : contA (headType rest) = true) : contM (headType (ts ++ rest)) = true := by
  cases h with
  | done => exact contA_contM hr
  | plus p hp =>
    rw [List.cons_append, List.cons_append, headType_cons, hp]
    rfl
  | minus p hp =>
    rw [List.cons_append, List.cons_append, headType_cons, hp]
    rfl

theorem cont_EqLoop {acc ts e} (h : G.EqLoop acc ts e) {rest : List Tok}
    (hr : contQ (headType rest) = true) : contA (headType (ts ++ rest)) = true := by
  cases h with
  | done => exact contQ_contA hr
  | eq q hq =>
    rw [List.cons_append, List.cons_append, headType_cons, hq]
    rfl

theorem prim_open {ts e} (h : G.Prim ts e) : G.endsClosed ts = false := by
  cases h with
  | var t h => rw [endsClosed_singleton, h]; rfl
  | fn f o c hf ho hc a | paren o c ho hc a =>
    rw [endsClosed_append _ (List.cons_ne_nil c []), endsClosed_singleton, hc]; rfl

theorem primSeq_open : ∀ {ts es}, G.PrimSeq ts es → G.endsClosed ts = false
  | _, _, .one a => prim_open a
  | _, _, .cons _ b => by rw [endsClosed_append _ (hd_PrimSeq b).ne_nil]; exact primSeq_open b

end PC

namespace PP
open G

/-- every level above 5 is `AddE` again, so that `Der.succ` and `Der.mono` need no bound; at a numeral
`Der k` is its relation by `rfl`, so a `Prim`/`Factors`/… proof is given where a `Der k` is asked -/
def Der : Nat → List Tok → Ex → Prop
  | 0, ts, e => Prim ts e
  | 1, ts, e => Factors ts e
  | 2, ts, e => UnaryE ts e
  | 3, ts, e => ExpE ts e
  | 4, ts, e => MultE ts e
  | _ + 5, ts, e => AddE ts e

theorem prim_factors {ts : List Tok} {e : Ex} (h : Prim ts e) : Factors ts e := by
  simpa [product] using Factors.plain (PrimSeq.one h)

theorem prim_pow {ts us : List Tok} {b u : Ex} (hb : Prim ts b) (x : Tok) (hx : x.type = .exponent)
    (hu : UnaryE us u) : Factors (ts ++ x :: us) (.bin 0 .pow b u) := by
  simpa [product] using Factors.pow x hx (init := []) (PrimSeq.one hb) hu rfl

theorem exp_mult {ts : List Tok} {e : Ex} (h : ExpE ts e) : MultE ts e := by
  simpa using MultE.mk h (MultLoop.done _)

theorem mult_add {ts : List Tok} {e : Ex} (h : MultE ts e) : AddE ts e := by
  simpa using AddE.mk h (AddLoop.done _)

theorem prim_unary {ts : List Tok} {e : Ex} (h : Prim ts e) : UnaryE ts e :=
  .factors (prim_factors h)

section
variable {ts : List Tok} {e : Ex}

theorem Der.succ : ∀ {k : Nat}, Der k ts e → Der (k + 1) ts e
  | 0, h => prim_factors h
  | 1, h => UnaryE.factors h
  | 2, h => ExpE.unary h
  | 3, h => exp_mult h
  | 4, h => mult_add h
  | _ + 5, h => h

theorem Der.mono {k k' : Nat} (hk : k ≤ k') (h : Der k ts e) : Der k' ts e := by
  induction hk with
  | refl => exact h
  | step _ ih => exact ih.succ

theorem Der.toAdd {k : Nat} (h : Der k ts e) : AddE ts e := by
  rcases Nat.le_total k 5 with hk | hk
  · exact h.mono hk
  · obtain ⟨n, rfl⟩ := Nat.exists_eq_add_of_le' hk
    exact h

end

/-- a literal with an optional minus: the grammar reads one in three places, each time by a pair of
productions (`lit`/`negLit`, `fact`/`negFact`, `litFactors`/`negLitFactors`) -/
inductive SLit : List Tok → Rat → Prop
  | pos (c : Tok) (q : Rat) : Lit c q → SLit [c] q
  | neg (m c : Tok) (q : Rat) : m.type = .minus → Lit c q → SLit [m, c] (-q)

theorem SLit.unary {ts : List Tok} {q : Rat} : SLit ts q → UnaryE ts (.const 0 q)
  | .pos c q h => .lit c q h
  | .neg m c q hm h => .negLit m c q hm h

theorem SLit.fact {ts : List Tok} {q : Rat} (b : Tok) (hb : b.type = .factorial) :
    SLit ts q → UnaryE (ts ++ [b]) (.un 0 .fact (.const 0 q))
  | .pos c q h => .fact c b q h hb
  | .neg m c q hm h => .negFact m c b q hm h hb

theorem SLit.factors {ts fs : List Tok} {q : Rat} {f : Ex} (hf : Factors fs f) :
    SLit ts q → UnaryE (ts ++ fs) (.bin 0 .mul (.const 0 q) f)
  | .pos c q h => .litFactors c q h hf
  | .neg m c q hm h => .negLitFactors m c q hm h hf

theorem addLoop_append {us : List Tok} {fin : Ex} :
    ∀ {acc : Ex} {ts : List Tok} {mid : Ex}, AddLoop acc ts mid → AddLoop mid us fin →
      AddLoop acc (ts ++ us) fin
  | _, _, _, .done _, h2 => h2
  | _, _, _, .plus p hp hm hl, h2 => by
      simpa [List.append_assoc] using AddLoop.plus p hp hm (addLoop_append hl h2)
  | _, _, _, .minus p hp hm hl, h2 => by
      simpa [List.append_assoc] using AddLoop.minus p hp hm (addLoop_append hl h2)

theorem addE_append {ts us : List Tok} {a b : Ex} (ha : AddE ts a) (hl : AddLoop a us b) :
    AddE (ts ++ us) b := by
  cases ha with
  | mk h0 hl0 => simpa [List.append_assoc] using AddE.mk h0 (addLoop_append hl0 hl)

theorem eqLoop_append {acc mid fin : Ex} {ts us : List Tok} (h1 : EqLoop acc ts mid)
    (h2 : EqLoop mid us fin) : EqLoop acc (ts ++ us) fin := by
  induction h1 with
  | done acc => simpa using h2
  | eq q hq ha _ ih =>
    simpa [List.append_assoc] using EqLoop.eq q hq ha (ih h2)

theorem equalE_of_add {ts : List Tok} {e : Ex} (h : AddE ts e) : EqualE ts e := by
  simpa using EqualE.mk h (EqLoop.done _)

theorem equalE_append {ts us : List Tok} {a b : Ex} (h : EqualE ts a) (hl : EqLoop a us b) :
    EqualE (ts ++ us) b := by
  cases h with
  | mk h0 hl0 => simpa [List.append_assoc] using EqualE.mk h0 (eqLoop_append hl0 hl)

end PP

theorem var_factor {xt : Tok} (hx : xt.type = .variable) : G.Factors [xt] (.var 0 (xt.value.headD 'x')) :=
  PP.prim_factors (G.Prim.var xt hx)

theorem pow_factor {xt pt et : Tok} {e : Rat} (hx : xt.type = .variable) (hp : pt.type = .exponent)
    (he : G.Lit et e) : G.Factors [xt, pt, et] (.bin 0 .pow (.var 0 (xt.value.headD 'x')) (.const 0 e)) :=
  PP.prim_pow (G.Prim.var xt hx) pt hp (G.UnaryE.lit et e he)

end Mathy
