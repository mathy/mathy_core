/-
The model's parser IS the repository's parser (translated source): `parse_factors` and the
agreement for every fuel.  The `while found` loop is the model's `factorsLoop`, with the list of
factors in source order where the model keeps it reversed; the loop that multiplies the factors up
is a fold in the model (`while2_*`), and the indexing with `-1` is the model's match on the
reversed list (`listIdx_last`, `listSet_last`).
-/
import Mathy.Proofs.PySrcAgreeParse3
namespace Mathy.SrcAgree
open Mathy.Py Mathy.Gen.Src

theorem last_index (l : List Ex) (x : Ex) : (-1 : Int) + strLen (l ++ [x]) = Int.ofNat l.length := by
  rw [strLen_append, strLen_cons, strLen_nil]
  show _ = strLen l
  omega

theorem listIdx_last (l : List Ex) (x : Ex) : listIdx (l ++ [x]) (-1) = .ok x := by
  simp only [listIdx, show ((-1 : Int) < 0) from by decide, if_true, last_index]
  simp

theorem listSet_last (l : List Ex) (x y : Ex) : listSet (l ++ [x]) (-1) y = .ok (l ++ [y]) := by
  simp only [listSet, show ((-1 : Int) < 0) from by decide, if_true, last_index]
  simp

theorem listIdx_zero_cons (x : Ex) (l : List Ex) : listIdx (x :: l) 0 = .ok x := by
  simp [listIdx]

theorem strLen_cons_pos (f : Ex) (fs : List Ex) : decide (strLen (f :: fs) > (0 : Int)) = true := by
  have := strLen_nonneg fs
  rw [strLen_cons]; exact decide_eq_true (by omega)

theorem while2_some (st : ParserState) (r : Option Ex) (fd : Bool) :
    ∀ (fs : List Ex) (e : Ex) (fuel : Nat), fs.length < fuel →
      ExpressionParser_parse_factors_while2 fuel st r fd fs (some e) =
        .ok (some (fs.foldl (fun acc f => .bin 0 .mul acc f) e), []) := by
  intro fs
  induction fs with
  | nil =>
    intro e fuel hf
    obtain ⟨k, rfl⟩ : ∃ k, fuel = k + 1 := ⟨fuel - 1, by simp at hf; omega⟩
    rw [ExpressionParser_parse_factors_while2]
    simp [strLen_nil]
  | cons f fs ih =>
    intro e fuel hf
    obtain ⟨k, rfl⟩ : ∃ k, fuel = k + 1 := ⟨fuel - 1, by simp only [List.length_cons] at hf; omega⟩
    rw [ExpressionParser_parse_factors_while2]
    simp only [pyflow, strLen_cons_pos, optUse, listPop0]
    exact ih _ k (by simp only [List.length_cons] at hf; omega)

theorem while2_none (st : ParserState) (r : Option Ex) (fd : Bool) (f0 f1 : Ex) (fs : List Ex) (fuel : Nat)
    (hf : (f0 :: f1 :: fs).length < fuel) :
    ExpressionParser_parse_factors_while2 fuel st r fd (f0 :: f1 :: fs) none =
      .ok (some ((f1 :: fs).foldl (fun acc f => .bin 0 .mul acc f) f0), []) := by
  obtain ⟨k, rfl⟩ : ∃ k, fuel = k + 1 := ⟨fuel - 1, by simp only [List.length_cons] at hf; omega⟩
  rw [ExpressionParser_parse_factors_while2]
  simp only [pyflow, strLen_cons_pos, optUse, listPop0]
  exact while2_some st r fd fs _ k (by simp only [List.length_cons] at hf; omega)

/-- the end of `parse_factors`; `l ≠ []` stands behind the colon so that `match l` is not abstracted
over it -/
theorem factors_final {ts : List Tok} (hg : Good ts) (r : Option Ex) (fd : Bool) {l : List Ex} :
    l ≠ [] → Sim RP
      (match l with
        | [] => .error .invalidExpression
        | f0 :: fs => .ok (G.product f0 fs, ts))
      (if strLen l == (1 : Int) then (listIdx l (0 : Int)).bind fun item => .ok (item, stOf ts)
      else
        (ExpressionParser_parse_factors_while2 (l.length + 1) (stOf ts) r fd l none).bind fun w =>
          (optUse w.1).bind fun e => .ok (e, stOf ts)) := by
  intro hl
  obtain ⟨f0, fs, rfl⟩ := List.exists_cons_of_ne_nil hl
  cases fs with
  | nil =>
    simp only [pyflow, strLen_cons, strLen_nil, listIdx_zero_cons]
    exact .ok ⟨rfl, hg⟩
  | cons f1 fs =>
    have h1 : (strLen (f0 :: f1 :: fs) == (1 : Int)) = false := by
      have := strLen_nonneg fs
      rw [strLen_cons, strLen_cons, beq_eq_false_iff_ne]; omega
    simp only [pyflow, h1]
    rw [while2_none _ r fd f0 f1 fs _ (by simp)]
    exact .ok ⟨rfl, hg⟩

section step
variable {n : Nat} (ih : Agree n)
include ih

theorem fl_tail (acc : List Ex) (f : Ex) (ts : List Tok) (hg : Good ts) :
    Sim RF (factorsNext n acc f ts)
      ((ExpressionParser_check (stOf ts) parser_FIRST_FACTOR false).bind fun v =>
        ExpressionParser_parse_factors_while1 (n + 1) (stOf ts) none v (acc.reverse ++ [f])) := by
  rw [check_false, bind_ok, set_first_factor]
  cases hff : firstFactor (headType ts)
  · rw [factorsNext_stop hff, ExpressionParser_parse_factors_while1]
    exact .ok ⟨by simp, hg⟩
  · rw [factorsNext_more hff]
    simpa using ih.fl (f :: acc) ts none hg

theorem fl_step (acc : List Ex) (ts : List Tok) (r0 : Option Ex) (hg : Good ts) :
    Sim RF (factorsLoop (n + 1) acc ts)
      (ExpressionParser_parse_factors_while1 (n + 1 + 1) (stOf ts) r0 true acc.reverse) := by
  rw [factorsLoop_succ, ExpressionParser_parse_factors_while1]
  simp only [pyflow, bind_bind, bind_ite, cur_type, cur_value, tt_consts, tyBits_beq, beq_iff_eq]
  refine .ite (fun _ => Sim.eat_bind hg _ fun ts1 _ hg1 => fl_tail ih acc _ ts1 hg1) fun _ => ?_
  refine .ite (fun hf => (ih.fn ts hg hf).bind_rel fun f ts1 hg1 => fl_tail ih acc f ts1 hg1) fun _ => ?_
  refine .ite (fun _ => Sim.eat_bind hg _ fun ts1 _ hg1 => ?_) fun _ => .error _
  refine (ih.add ts1 hg1).bind_rel fun e ts2 hg2 => ?_
  exact Sim.eat_bind hg2 _ fun ts3 _ hg3 => fl_tail ih acc e ts3 hg3

theorem factors_step (ts : List Tok) (hg : Good ts) :
    Sim RP (parseFactors (n + 1) ts) (ExpressionParser_parse_factors (n + 1 + 1) (stOf ts)) := by
  rw [parseFactors_succ, ExpressionParser_parse_factors]
  refine (ih.fl [] ts none hg).bind_rel fun rev ts1 hg1 => ?_
  cases rev with
  | nil => simp only [pyflow, List.reverse_nil, strLen_nil, beq_self_eq_true]; exact .error _
  | cons last before =>
    have hlen : (strLen (before.reverse ++ [last]) == (0 : Int)) = false := by
      have := strLen_nonneg before.reverse
      rw [strLen_append, strLen_cons, strLen_nil, beq_eq_false_iff_ne]; omega
    simp only [pyflow, bind_bind, bind_ite, List.reverse_cons, hlen]
    refine pow_step ih.unary _ last ts1 hg1 (factors_final hg1 _ _ (by simp)) fun _ r ts2 hg2 => ?_
    simp only [pyflow, listIdx_last, listSet_last]
    exact factors_final hg2 _ _ (by simp)

end step

theorem agree_all : ∀ n, Agree n
  | 0 => agree_zero
  | n + 1 =>
    have ih := agree_all n
    { equal := equal_step ih, equalL := equalL_step ih, add := add_step ih, addL := addL_step ih,
      mult := mult_step ih, multL := multL_step ih, exp := exp_step ih, unary := unary_step ih,
      fl := fun acc ts r => fl_step ih acc ts r, factors := factors_step ih, fn := fn_step ih }

/- `agree_all` as equations (`ag_all`): where the model's fuel does not run out, the translated method
returns the model's result, carried over to Python's side by `liftP` / `liftL` / `liftF`. -/

def liftP : PRes → Except PyErr (Ex × ParserState)
  | .ok (e, ts) => .ok (e, stOf ts)
  | .error k => .error (errOf k)

def liftL : PRes → Except PyErr (ParserState × Ex)
  | .ok (e, ts) => .ok (stOf ts, e)
  | .error k => .error (errOf k)

def liftF : Except PErr (List Ex × List Tok) → Except PyErr (Option Ex × List Ex × ParserState × Bool)
  | .ok (rev, ts) => .ok (none, rev.reverse, stOf ts, false)
  | .error k => .error (errOf k)

/-- `L` (`liftP`, `liftL`, `liftF`) is read off the expected type; the default arguments supply its two equations by `rfl` -/
theorem Sim.lift {α β : Type} {φ : α → ParserState → β} {L : Except PErr (α × List Tok) → Except PyErr β}
    {m : Except PErr (α × List Tok)} {g : Except PyErr β} (h : Sim (Rel φ) m g) (hne : m ≠ .error .fuel)
    (hok : ∀ a ts, L (.ok (a, ts)) = .ok (φ a (stOf ts)) := by exact fun _ _ => rfl)
    (herr : ∀ k, L (.error k) = .error (errOf k) := by exact fun _ => rfl) : g = L m := by
  rcases m with k | ⟨a, ts⟩
  · rw [herr]; exact h.of_error (by simpa using hne)
  · obtain ⟨_, rfl, rfl, -⟩ := h.of_ok; exact (hok a ts).symm

/-- the nine mutually recursive functions, as in `PS.IH`; `parse_equal`, called from `_parse` alone, stays `Agree.equal` (`parse_sim`) -/
structure AG (n : Nat) : Prop where
  add : ∀ ts, Good ts → parseAdd n ts ≠ .error .fuel →
    ExpressionParser_parse_add (n + 1) (stOf ts) = liftP (parseAdd n ts)
  addL : ∀ acc ts, Good ts → addLoop n acc ts ≠ .error .fuel →
    ExpressionParser_parse_add_while1 (n + 1) (stOf ts) acc = liftL (addLoop n acc ts)
  mult : ∀ ts, Good ts → parseMult n ts ≠ .error .fuel →
    ExpressionParser_parse_mult (n + 1) (stOf ts) = liftP (parseMult n ts)
  multL : ∀ acc ts, Good ts → multLoop n acc ts ≠ .error .fuel →
    ExpressionParser_parse_mult_while1 (n + 1) (stOf ts) acc = liftL (multLoop n acc ts)
  exp : ∀ ts, Good ts → parseExponent n ts ≠ .error .fuel →
    ExpressionParser_parse_exponent (n + 1) (stOf ts) = liftP (parseExponent n ts)
  unary : ∀ ts, Good ts → parseUnary n ts ≠ .error .fuel →
    ExpressionParser_parse_unary (n + 1) (stOf ts) = liftP (parseUnary n ts)
  fl : ∀ acc ts r, Good ts → factorsLoop n acc ts ≠ .error .fuel →
    ExpressionParser_parse_factors_while1 (n + 1) (stOf ts) r true acc.reverse = liftF (factorsLoop n acc ts)
  factors : ∀ ts, Good ts → parseFactors n ts ≠ .error .fuel →
    ExpressionParser_parse_factors (n + 1) (stOf ts) = liftP (parseFactors n ts)
  fn : ∀ ts, Good ts → headType ts = .function → parseFunction n ts ≠ .error .fuel →
    ExpressionParser_parse_function (n + 1) (stOf ts) = liftP (parseFunction n ts)

theorem ag_all : ∀ n, AG n := fun n =>
  have h := agree_all n
  { add := fun ts hg hne => (h.add ts hg).lift hne
    addL := fun acc ts hg hne => (h.addL acc ts hg).lift hne
    mult := fun ts hg hne => (h.mult ts hg).lift hne
    multL := fun acc ts hg hne => (h.multL acc ts hg).lift hne
    exp := fun ts hg hne => (h.exp ts hg).lift hne
    unary := fun ts hg hne => (h.unary ts hg).lift hne
    fl := fun acc ts r hg hne => (h.fl acc ts r hg).lift hne
    factors := fun ts hg hne => (h.factors ts hg).lift hne
    fn := fun ts hg hf hne => (h.fn ts hg hf).lift hne }

end Mathy.SrcAgree
