/-
Printing then parsing (property C04): every printed tree is derivable in the documented grammar
(`Spec/Grammar.lean`) with a tree that evaluates identically and has the same variables.

The grammar's levels are numbered from the innermost (`Der`).  The un-parenthesised text of a tree
derives at a level fixed by its root (`lvl`), an operand position asks for a level (`need`), the
context adds at most one pair of parentheses (`printToks_ctx`), and `self_parens` adds it wherever
`lvl` exceeds `need` (`selfParens_fits`).
-/
import Mathy.Proofs.PrintLemmas
import Mathy.Proofs.Eval
import Mathy.Proofs.GrammarLemmas
namespace Mathy

/-- printable below the equation chain: no equation, and also no `abs` (the name is not registered with
the tokenizer) and `!` only of a literal — what the parser and the rules can produce there -/
def NoEq : Ex → Bool
  | .const .. => true
  | .var .. => true
  | .un _ .abs _ => false
  | .un _ .fact c => c.isConst
  | .un _ _ c => NoEq c
  | .bin _ .eq _ _ => false
  | .bin _ _ l r => NoEq l && NoEq r

/-- equations only at the top (chained equations print as `a = b = c`) -/
def Printable : Ex → Bool
  | .bin _ .eq l r => Printable l && Printable r
  | e => NoEq e

/-- on absolute values: the sign is printed as a token of its own (`constToks`) -/
def NumOk (nt : Rat → List Char) : Ex → Prop
  | .const _ v => parseNumber (nt (if v < 0 then -v else v)) = some (if v < 0 then -v else v)
  | .var .. => True
  | .un _ _ c => NumOk nt c
  | .bin _ _ l r => NumOk nt l ∧ NumOk nt r

/-- equations only down the left spine, `(a = b) = c`: the nesting in which `a = b = c` is read -/
def PrintableL : Ex → Bool
  | .bin _ .eq l r => PrintableL l && NoEq r
  | e => NoEq e

theorem noEq_bin (t : Nat) (o : Bop) (l r : Ex) :
    NoEq (.bin t o l r) = true ↔ o ≠ .eq ∧ NoEq l = true ∧ NoEq r = true := by
  cases o <;> simp [NoEq]

section
variable {nt : Rat → List Char} {t : Nat}

theorem numOk_const {v : Rat} : NumOk nt (.const t v) ↔
    parseNumber (nt (if v < 0 then -v else v)) = some (if v < 0 then -v else v) := Iff.rfl

theorem numOk_un {o : Uop} {c : Ex} : NumOk nt (.un t o c) ↔ NumOk nt c := Iff.rfl

theorem numOk_bin {o : Bop} {l r : Ex} : NumOk nt (.bin t o l r) ↔ NumOk nt l ∧ NumOk nt r := Iff.rfl

end

namespace PP
open G

/-- what C04 says of the tree read back -/
def Rel (e e' : Ex) : Prop := EvalEq e e' ∧ ∀ c, c ∈ e'.vars ↔ c ∈ e.vars

theorem Rel.bin {l l' r r' : Ex} (t t' : Nat) (o : Bop) (hl : Rel l l') (hr : Rel r r') :
    Rel (.bin t o l r) (.bin t' o l' r') :=
  ⟨.bin t t' o hl.1 hr.1, fun c => by simp [Ex.vars, hl.2 c, hr.2 c]⟩

theorem Rel.un {c c' : Ex} (t t' : Nat) (o : Uop) (h : Rel c c') : Rel (.un t o c) (.un t' o c') :=
  ⟨.un t t' o h.1, fun x => by simp [Ex.vars, h.2 x]⟩

theorem Rel.const (t : Nat) (v : Rat) : Rel (.const t v) (.const 0 v) :=
  ⟨fun _ => rfl, fun _ => Iff.rfl⟩

theorem Rel.var (t : Nat) (x : Char) : Rel (.var t x) (.var 0 x) :=
  ⟨fun _ => rfl, fun _ => Iff.rfl⟩

theorem Der.parens {ts : List Tok} {e : Ex} {j k : Nat} (b : Bool) (h : Der j ts e)
    (hk : b = false → j ≤ k) : Der k (parens b ts) e := by
  cases b
  · exact h.mono (hk rfl)
  · exact Der.mono (Nat.zero_le k) (k := 0) (Prim.paren _ _ rfl rfl h.toAdd)

/-- a caret after this text belongs to `ExpE`, not to the run of factors -/
def closed (e : Ex) : Bool := e.isConst || e.isUn .fact

/-- `a * b`, `a / b` derive as `MultE` (4), `a + b`, `a - b` as `AddE` (5) -/
def opLvl (o : Bop) : Nat := if o.isMulDiv then 4 else 5

/-- the innermost level at which the text of a tree, without parentheses around it, derives: `x`,
`sgn(a)` are primaries (0); `x^2` is a run of factors (1), but `2^x`, `3!^x` (base `closed`) are `ExpE`
(3); a literal, `-a`, `3!` and the compact product `4x` are `UnaryE` (2) -/
def lvl : Ex → Nat
  | .var .. | .un _ .sgn _ | .un _ .abs _ => 0
  | .const .. | .un _ .neg _ | .un _ .fact _ => 2
  | e@(.bin _ o l _) =>
    if o = .pow then (if closed l then 3 else 1)
    else if isCompactProduct e then 2 else opLvl o

theorem lvl_pow (t : Nat) (l r : Ex) : lvl (.bin t .pow l r) = if closed l then 3 else 1 := rfl

theorem compact_form {e : Ex} (h : isCompactProduct e = true) :
    ∃ t t1 q r, e = .bin t .mul (.const t1 q) r ∧ lvl r ≤ 1 := by
  rcases isCompactProduct_cases h with ⟨_, _, _, _, _, rfl⟩ | ⟨_, _, _, _, _, _, _, rfl⟩
  · exact ⟨_, _, _, _, rfl, Nat.zero_le 1⟩
  · exact ⟨_, _, _, _, rfl, by simp [lvl_pow, closed, Ex.isConst, Ex.isUn]⟩

theorem lvl_compact {e : Ex} (h : isCompactProduct e = true) : lvl e = 2 := by
  obtain ⟨_, _, _, _, rfl, -⟩ := compact_form h
  simp [lvl, h]

theorem lvl_bin {t : Nat} {o : Bop} {l r : Ex} (hp : o ≠ .pow)
    (hc : isCompactProduct (.bin t o l r) = false) : lvl (.bin t o l r) = opLvl o := by
  simp only [lvl, if_neg hp, hc, Bool.false_eq_true, if_false]

/-- the outermost level the grammar accepts in an operand position.  `a / b * c` is read `(a / b) * c`,
`a * b / c` is read `a * (b / c)`: after `/` an `ExpE` (3), after `*` a whole `MultE` (4), before either
an `ExpE` (3).  Sums chain to the left: an `AddE` (5) before `+` `-`, a `MultE` (4) after; `=` has an
`AddE` (5) on both sides.  The exponent is a `UnaryE` (2), the base a primary (0) unless `closed`. -/
def need : Bop → Side → Nat
  | .add, .left | .sub, .left | .eq, _ => 5
  | .add, .right | .sub, .right | .mul, .right => 4
  | .mul, .left | .div, _ => 3
  | .pow, .right => 2
  | .pow, .left => 0

/-- `self_parens` against the grammar, row by row of the priority/side table -/
theorem selfParens_fits : ∀ (p : Bop) (s : Side) (o : Bop), o ≠ .pow →
    selfParens o (some (p, s)) = false → opLvl o ≤ need p s := by
  intro p s o; cases p <;> cases s <;> cases o <;> decide

theorem two_le_need (p : Bop) (s : Side) (h : (p, s) ≠ (.pow, .left)) : 2 ≤ need p s := by
  revert h; cases p <;> cases s <;> decide

theorem three_le_need (p : Bop) (s : Side) (h : p ≠ .pow) : 3 ≤ need p s := by
  revert h; cases p <;> cases s <;> decide

section
variable {nt : Rat → List Char}

theorem operand {p : Bop} {s : Side} {c c' : Ex} {k : Nat}
    (hd : Der (lvl c) (printToks nt none c) c')
    (h : extra p s c = false → wrapCtx (some (p, s)) c = false → lvl c ≤ k) :
    Der k (arg nt p s c) c' := by
  rw [arg, printToks_ctx]
  -- inner pair from `self_parens` (`wrapCtx`), then a primary; outer pair from `PowerExpression.__str__` (`extra`)
  refine Der.parens _ (Der.parens (k := if wrapCtx (some (p, s)) c then 0 else lvl c) _ hd ?_) ?_
  · intro hw; simp [hw]
  · intro hx
    cases hw : wrapCtx (some (p, s)) c
    · simpa using h hx hw
    · simp

theorem fits {p : Bop} {s : Side} (hps : (p, s) ≠ (.pow, .left)) (c : Ex)
    (hx : extra p s c = false) (hw : wrapCtx (some (p, s)) c = false) : lvl c ≤ need p s := by
  have h2 := two_le_need p s hps
  cases c with
  | const t v => exact h2
  | var t x => exact Nat.zero_le _
  | un t o c =>
    have : lvl (.un t o c) ≤ 2 := by cases o <;> simp [lvl]
    exact le_trans this h2
  | bin t o l r =>
    by_cases hpow : o = .pow
    · subst hpow
      have h3 : lvl (.bin t .pow l r) ≤ 3 := by
        rw [lvl_pow]; split <;> decide
      refine le_trans h3 (three_le_need p s ?_)
      rintro rfl
      cases s
      · exact hps rfl
      · -- an exponent that is itself a power always gets the `extra` pair
        simp [extra, Ex.isOp] at hx
    · cases hc : isCompactProduct (.bin t o l r)
      · rw [wrapCtx_bin _ hpow hc] at hw
        rw [lvl_bin hpow hc]
        exact selfParens_fits p s o hpow hw
      · rw [lvl_compact hc]
        exact h2

theorem slit_const {t : Nat} {v : Rat} (h : NumOk nt (.const t v)) : SLit (constToks nt v) v := by
  unfold constToks
  rw [numOk_const] at h
  split_ifs with hv
  · rw [if_pos hv] at h
    simpa using SLit.neg (tk .minus "-") ⟨.constant, nt (-v)⟩ (-v) rfl ⟨rfl, h⟩
  · rw [if_neg hv] at h
    exact SLit.pos ⟨.constant, nt v⟩ v ⟨rfl, h⟩

theorem slit_neg {t : Nat} {v : Rat} (h : NumOk nt (.const t v)) (hv : ¬ v < 0) :
    SLit (tk .minus "-" :: constToks nt v) (-v) := by
  unfold constToks
  simp only [numOk_const, if_neg hv] at h ⊢
  exact SLit.neg (tk .minus "-") ⟨.constant, nt v⟩ v rfl ⟨rfl, h⟩

theorem combine {o : Bop} (ho : o ≠ .eq) (hp : o ≠ .pow) {ts us : List Tok} {l' r' : Ex}
    (hl : Der (need o .left) ts l') (hr : Der (need o .right) us r') :
    Der (opLvl o) (ts ++ opTok o :: us) (.bin 0 o l' r') := by
  cases o with
  | eq => exact absurd rfl ho
  | pow => exact absurd rfl hp
  | add => exact addE_append hl (by simpa using AddLoop.plus (opTok .add) rfl hr (.done _))
  | sub => exact addE_append hl (by simpa using AddLoop.minus (opTok .sub) rfl hr (.done _))
  | mul => exact MultE.mk hl (MultLoop.mul (opTok .mul) rfl hr)
  | div => exact MultE.mk hl (by simpa using MultLoop.div (opTok .div) rfl hr (.done _))

/-! The two positions where the level alone does not decide: the base of a power, the operand of a
negation. -/

theorem base_open (l : Ex) (hcl : closed l = false) (hx : powerBaseNeedsParens l = false)
    (hw : wrapCtx (some (.pow, .left)) l = false) : lvl l = 0 := by
  cases l with
  | const t v => cases hcl
  | var t x => rfl
  | un t o c =>
    cases o with
    | neg => cases hx
    | fact => cases hcl
    | sgn | abs => rfl
  | bin t o l r =>
    -- a power or a compact product gets parentheses from `PowerExpression.__str__` (`hx`), any other
    -- operator from `self_parens`, since `^` has the highest priority (`hw`)
    simp only [powerBaseNeedsParens, Bool.or_eq_false_iff] at hx
    cases o with
    | pow => cases hx.1.2
    | _ =>
      rw [wrapCtx_bin _ (by decide) hx.2] at hw
      cases hw

theorem base_closed (l : Ex) (hcl : closed l = true) :
    arg nt .pow .left l = printToks nt none l ∧ lvl l = 2 ∧
      endsClosed (printToks nt none l) = true := by
  cases l with
  | const t v => exact ⟨rfl, rfl, by simp only [printToks, constToks]; split <;> rfl⟩
  | un t o c =>
    cases o <;> simp [closed, Ex.isUn, Ex.isConst] at hcl
    exact ⟨rfl, rfl, by simp [printToks, endsClosed, tk]⟩
  | _ => simp [closed, Ex.isUn, Ex.isConst] at hcl

/-- bare after `-`: a run of factors; a literal `v ≥ 0`, read back as `-v`; a compact product `4x`, read back as `(-4)·x` -/
theorem nnp_false (c : Ex) (h : negateNeedsParens c = false) :
    lvl c ≤ 1 ∨ (∃ t v, c = .const t v ∧ ¬ v < 0) ∨
    (∃ t t1 q r0, c = .bin t .mul (.const t1 q) r0 ∧ isCompactProduct c = true ∧ ¬ q < 0) := by
  cases c with
  | const t v => exact .inr (.inl ⟨t, v, rfl, by simpa [negateNeedsParens] using h⟩)
  | var t x => exact .inl (Nat.zero_le _)
  | un t o c =>
    cases o with
    | neg | fact => cases h
    | sgn | abs => exact .inl (Nat.zero_le _)
  | bin t o l r =>
    cases o with
    | pow =>
      -- `-x^2`: a power goes bare exactly when its base is open, and then it is a run of factors
      have hcl : closed l = false := h
      exact .inl (by simp [lvl_pow, hcl])
    | mul =>
      cases l with
      | const t1 q =>
        simp only [negateNeedsParens] at h
        split at h
        · exact .inr (.inr ⟨t, t1, q, r, rfl, ‹_›, by simpa using h⟩)
        · cases h
      | _ => cases h
    | _ => cases h

/-- the text of `e` without parentheses around it derives at the level `lvl e`, as a tree `Rel`-ated to `e` -/
theorem main : ∀ e : Ex, NoEq e = true → NumOk nt e →
    ∃ e', Rel e e' ∧ Der (lvl e) (printToks nt none e) e'
  | .const t v, _, hn => ⟨.const 0 v, Rel.const t v, (slit_const hn).unary⟩
  | .var t x, _, _ => ⟨.var 0 x, Rel.var t x, Prim.var ⟨.variable, [x]⟩ rfl⟩
  | .un t .abs c, hne, _ => by simp [NoEq] at hne
  | .un t .fact c, hne, hn => by
      cases c with
      | const t1 v =>
        exact ⟨.un 0 .fact (.const 0 v), Rel.un _ _ _ (Rel.const t1 v), (slit_const (numOk_un.1 hn)).fact _ rfl⟩
      | _ => simp [NoEq, Ex.isConst] at hne
  | .un t .sgn c, hne, hn => by
      obtain ⟨c', hrel, hd⟩ := main c hne (numOk_un.1 hn)
      exact ⟨.un 0 .sgn c', Rel.un _ _ _ hrel, Prim.fn (tk .function "sgn") _ _ rfl rfl rfl hd.toAdd⟩
  | .un t .neg c, hne, hn => by
      have hnc : NumOk nt c := numOk_un.1 hn
      obtain ⟨c', hrel, hd⟩ := main c hne hnc
      simp only [printToks]
      cases hp : negateNeedsParens c with
      | true =>
        exact ⟨_, Rel.un _ _ _ hrel, .negFactors _ rfl (Der.parens (k := 1) true hd nofun)⟩
      | false =>
        rw [parens_false]
        rcases nnp_false c hp with hf | ⟨t1, v, rfl, hv⟩ | ⟨t1, t2, q, r0, rfl, hc, hq⟩
        · exact ⟨.un 0 .neg c', Rel.un _ _ _ hrel, .negFactors _ rfl (hd.mono hf)⟩
        · exact ⟨.const 0 (-v), ⟨fun _ => rfl, fun _ => Iff.rfl⟩, (slit_neg hnc hv).unary⟩
        · -- `-4x` is read as `(-4)·x`: the factor is the grandchild, out of reach of the structural
          -- recursion on `e`, hence the recursion on `sizeOf e`
          obtain ⟨hnq, hnr⟩ := numOk_bin.1 hnc
          obtain ⟨f, hrf, hdf⟩ := main r0 ((noEq_bin ..).1 hne).2.2 hnr
          obtain ⟨_, _, _, _, heq, hlf⟩ := compact_form hc
          cases heq
          refine ⟨.bin 0 .mul (.const 0 (-q)) f, ⟨fun env => ?_, fun x => ?_⟩, ?_⟩
          · simp only [eval, ← hrf.1 env, res_neg_mul]
          · simpa [Ex.vars] using hrf.2 x
          · rw [print_bin, if_pos hc]
            exact (slit_neg hnq hq).factors (operand hdf fun _ _ => hlf)
  | .bin t o l r, hne, hn => by
      obtain ⟨ho, hnl, hnr⟩ := (noEq_bin ..).1 hne
      obtain ⟨hkl, hkr⟩ := numOk_bin.1 hn
      obtain ⟨r', hrr, hrd⟩ := main r hnr hkr
      by_cases hc : isCompactProduct (.bin t o l r) = true
      · obtain ⟨_, t1, q, _, heq, hlf⟩ := compact_form hc
        cases heq
        refine ⟨.bin 0 .mul (.const 0 q) r', Rel.bin _ _ _ (Rel.const _ _) hrr, ?_⟩
        rw [print_bin, if_pos hc, lvl_compact hc]
        exact (slit_const hkl).factors (operand (p := .mul) (s := .right) hrd fun _ _ => hlf)
      obtain ⟨l', hlr, hld⟩ := main l hnl hkl
      refine ⟨.bin 0 o l' r', Rel.bin _ _ _ hlr hrr, ?_⟩
      rw [print_bin, if_neg hc]
      by_cases hpow : o = .pow
      · subst hpow
        have hE : UnaryE (arg nt .pow .right r) r' :=
          operand (p := .pow) (s := .right) hrd (fits (by decide) r)
        rw [lvl_pow]
        split_ifs with hcl
        · obtain ⟨h1, h2, h3⟩ := base_closed (nt := nt) l hcl
          rw [h1]; rw [h2] at hld
          exact ExpE.pow (opTok .pow) rfl hld h3 hE
        · have hB : Prim (arg nt .pow .left l) l' :=
            operand (p := .pow) (s := .left) hld fun hx hw =>
              (base_open l (eq_false_of_ne_true hcl) hx hw).le
          exact prim_pow hB (opTok .pow) rfl hE
      · rw [lvl_bin hpow (eq_false_of_ne_true hc)]
        exact combine ho hpow
          (operand hld (fits (by simp [hpow]) l)) (operand hrd (fits (by simp [hpow]) r))
termination_by e => sizeOf e
decreasing_by
  -- the goals come with `e = pattern` as hypotheses; only after `subst_vars` do the sizes mention the pattern
  all_goals subst_vars
  all_goals simp +arith

end

section
variable (nt : Rat → List Char)

theorem eqLoop_one {acc r : Ex} {us : List Tok} (hr : AddE us r) :
    EqLoop acc (opTok .eq :: us) (.bin 0 .eq acc r) := by
  simpa using EqLoop.eq (opTok .eq) rfl hr (EqLoop.done _)

theorem noeq_add (e : Ex) (hne : NoEq e = true) (hn : NumOk nt e) :
    ∃ e', Rel e e' ∧ AddE (printToks nt none e) e' := by
  obtain ⟨e', hrel, hder⟩ := main e hne hn
  exact ⟨e', hrel, hder.toAdd⟩

theorem chainL (e : Ex) (hp : PrintableL e = true) (hn : NumOk nt e) :
    ∃ e', Rel e e' ∧ EqualE (printToks nt none e) e' := by
  fun_induction PrintableL e with
  | case1 t l r ih =>
    simp only [Bool.and_eq_true] at hp
    obtain ⟨hnl, hnr⟩ := numOk_bin.1 hn
    obtain ⟨l', hlr, hle⟩ := ih hp.1 hnl
    obtain ⟨r', hrr, hra⟩ := noeq_add nt r hp.2 hnr
    refine ⟨.bin 0 .eq l' r', Rel.bin _ _ _ hlr hrr, ?_⟩
    rw [print_eq]
    exact equalE_append hle (eqLoop_one hra)
  | case2 e _ =>
    obtain ⟨e', hrel, ha⟩ := noeq_add nt _ hp hn
    exact ⟨e', hrel, equalE_of_add ha⟩

/-- arbitrary chains: the first component is the tree read for the whole text, the second
continues a chain whose left part `acc` has been read already -/
theorem chain (e : Ex) (hp : Printable e = true) (hn : NumOk nt e) :
    (∃ e', EqualE (printToks nt none e) e' ∧ (∀ env v, eval env e = .ok v ↔ eval env e' = .ok v) ∧
      ∀ c, c ∈ e'.vars ↔ c ∈ e.vars) ∧
    (∀ acc : Ex, ∃ e'', EqLoop acc (opTok .eq :: printToks nt none e) e'' ∧
      (∀ env v, eval env e'' = .ok v ↔ eval env acc = .ok v ∧ eval env e = .ok v) ∧
      ∀ c, c ∈ e''.vars ↔ c ∈ acc.vars ∨ c ∈ e.vars) := by
  fun_induction Printable e with
  | case1 t l r ihl ihr =>
    simp only [Bool.and_eq_true] at hp
    obtain ⟨⟨l', hle, hlw, hlv⟩, hlacc⟩ := ihl hp.1 (numOk_bin.1 hn).1
    obtain ⟨-, hracc⟩ := ihr hp.2 (numOk_bin.1 hn).2
    rw [print_eq]
    refine ⟨?_, fun acc => ?_⟩
    · obtain ⟨r'', hrl, hrs, hrv⟩ := hracc l'
      refine ⟨r'', equalE_append hle hrl, fun env v => ?_, fun c => ?_⟩
      · rw [eval_eq_ok, hrs env v, hlw env v]
      · rw [hrv c, hlv c]; simp [Ex.vars]
    · obtain ⟨l'', hll, hls, hlv'⟩ := hlacc acc
      obtain ⟨r'', hrl, hrs, hrv⟩ := hracc l''
      refine ⟨r'', ?_, fun env v => ?_, fun c => ?_⟩
      · simpa [List.append_assoc] using eqLoop_append hll hrl
      · rw [hrs env v, hls env v, eval_eq_ok, and_assoc]
      · rw [hrv c, hlv' c]; simp [Ex.vars, or_assoc]
  | case2 e _ =>
    obtain ⟨e', hrel, ha⟩ := noeq_add nt e hp hn
    refine ⟨⟨e', equalE_of_add ha, fun env v => by rw [hrel.1 env], hrel.2⟩, fun acc => ?_⟩
    refine ⟨.bin 0 .eq acc e', eqLoop_one ha, fun env v => ?_, fun c => ?_⟩
    · rw [eval_eq_ok, hrel.1 env]
    · simp [Ex.vars, hrel.2 c]

end

def OkT (ts : List Tok) : Prop := ∀ t ∈ ts, t.type ≠ .eof

theorem OkT.append {ts us : List Tok} (h1 : OkT ts) (h2 : OkT us) : OkT (ts ++ us) := by
  simpa [OkT, or_imp, forall_and] using And.intro h1 h2

end PP
end Mathy
