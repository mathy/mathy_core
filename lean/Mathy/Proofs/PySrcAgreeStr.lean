/-
The model's printer IS the repository's (translated source): `Gen/PySrcStr.lean` is regenerated on every
run from the live `__str__` methods of mathy_core/expressions.py by `harness/py2lean_print.py`.
-/
import Mathy.Gen.PySrcStr
import Mathy.Proofs.PySrcAgreePrint
import Mathy.Proofs.PyRtLemmas
import Mathy.Proofs.PrintLemmas
namespace Mathy.SrcAgree
open Mathy.Py Mathy.Gen.Src

/-- the test of `MultiplyExpression.__str__` for the compact form is the model's `isCompactProduct` -/
theorem compact_cond (k : Ctx) (t : Nat) (o : Bop) (l r : Ex) :
    (isinstance (some ⟨k, .bin t o l r⟩) [.MultiplyExpression] &&
      isinstance (Ref.left (some ⟨k, .bin t o l r⟩)) [.ConstantExpression] &&
      (isinstance (Ref.right (some ⟨k, .bin t o l r⟩)) [.VariableExpression] ||
        (isinstance (Ref.right (some ⟨k, .bin t o l r⟩)) [.PowerExpression] &&
          isinstance (Ref.left (Ref.right (some ⟨k, .bin t o l r⟩))) [.VariableExpression]))) =
      isCompactProduct (.bin t o l r) := by
  rw [← is_compact_product_agree k, is_compact_product]
  cases isinstance (some ⟨k, .bin t o l r⟩) [.MultiplyExpression] <;>
    cases isinstance (Ref.left (some ⟨k, .bin t o l r⟩)) [.ConstantExpression] <;> rfl

/-- the operator name `BinaryExpression.__str__` picks by class -/
theorem name_of_class (k : Ctx) (t : Nat) {o : Bop} (l r : Ex) (ho : o ≠ .pow) :
    (if isinstance (some ⟨k, .bin t o l r⟩) [.EqualExpression] then name_eq
      else if isinstance (some ⟨k, .bin t o l r⟩) [.AddExpression] then name_add
      else if isinstance (some ⟨k, .bin t o l r⟩) [.SubtractExpression] then name_sub
      else if isinstance (some ⟨k, .bin t o l r⟩) [.MultiplyExpression] then name_mul
      else name_div) = [opChar o] := by
  cases o with
  | pow => exact absurd rfl ho
  | _ => rfl

theorem bin_classes (k : Ctx) (t : Nat) (o : Bop) (l r : Ex) :
    isinstance (some ⟨k, .bin t o l r⟩) [.ConstantExpression] = false ∧
    isinstance (some ⟨k, .bin t o l r⟩) [.VariableExpression] = false ∧
    isinstance (some ⟨k, .bin t o l r⟩) [.NegateExpression] = false ∧
    isinstance (some ⟨k, .bin t o l r⟩) [.FactorialExpression] = false ∧
    isinstance (some ⟨k, .bin t o l r⟩) [.FunctionExpression] = false :=
  ⟨rfl, rfl, rfl, rfl, rfl⟩

theorem str_agree (nt : Rat → List Char) : ∀ (e : Ex) (k : Ctx) (fuel : Nat), e.size < fuel →
    MathExpression_str nt fuel (some ⟨k, e⟩) = strChars nt (ctxParent k) e
  | _, _, 0, hf => absurd hf (Nat.not_lt_zero _)
  | .const t v, k, f + 1, _ => rfl
  | .var t x, k, f + 1, _ => rfl
  | .un t o c, k, f + 1, hf => by
    -- at a node of known class the class tests of the translated code compute, so each case is the
    -- induction hypothesis under the same text around the child
    have ihc : MathExpression_str nt f (some ⟨.un t o :: k, c⟩) = strChars nt none c :=
      str_agree nt c (.un t o :: k) f (by simp only [Ex.size] at hf; omega)
    cases o
    · show '-' :: parensC (negate_needs_parens (some ⟨.un t .neg :: k, c⟩))
        (MathExpression_str nt f (some ⟨.un t .neg :: k, c⟩)) = _
      rw [negate_needs_parens_agree, ihc]
      rfl
    · exact congrArg (· ++ ['!']) ihc
    · exact congrArg (fun s => "sgn".toList ++ parensC true s) ihc
    · exact congrArg (fun s => "abs".toList ++ parensC true s) ihc
  | .bin t o l r, k, f + 1, hf => by
    have il : MathExpression_str nt f (some ⟨.binL t o r :: k, l⟩) = strChars nt (some (o, .left)) l :=
      str_agree nt l (.binL t o r :: k) f (by simp only [Ex.size] at hf; omega)
    have ir : MathExpression_str nt f (some ⟨.binR t o l :: k, r⟩) = strChars nt (some (o, .right)) r :=
      str_agree nt r (.binR t o l :: k) f (by simp only [Ex.size] at hf; omega)
    obtain ⟨h1, h2, h3, h4, h5⟩ := bin_classes k t o l r
    rw [MathExpression_str]
    by_cases hpw : o = .pow
    · subst hpw
      have hrp : isinstance (some ⟨.binR t .pow l :: k, r⟩) [.PowerExpression] = r.isOp .pow := by
        cases r with
        | bin _ ro _ _ => cases ro <;> rfl
        | _ => rfl
      have h6 : isinstance (some ⟨k, .bin t .pow l r⟩) [.PowerExpression] = true := rfl
      simp only [h1, h2, h3, h4, h5, h6, Bool.false_eq_true, if_false, if_true, left_bin, right_bin, il, ir,
        hrp, power_base_needs_parens_agree, List.append_assoc]
      rfl
    · have h6 : isinstance (some ⟨k, .bin t o l r⟩) [.PowerExpression] = false := by
        cases o with
        | pow => exact absurd rfl hpw
        | _ => rfl
      have hcomp := compact_cond k t o l r
      simp only [left_bin, right_bin] at hcomp
      simp only [h1, h2, h3, h4, h5, h6, Bool.false_eq_true, if_false, left_bin, right_bin, il, ir, hcomp,
        self_parens_agree]
      rw [PP.strChars_bin nt _ t o l r hpw, name_of_class k t l r hpw]
      -- what is left is spelling: `[Char.ofNat 40]` for `'('`, `[opChar o]` in a `++`, the association of `++`
      split
      · simp
      · cases selfParens o (ctxParent k) <;> simp [parensC]

end Mathy.SrcAgree
