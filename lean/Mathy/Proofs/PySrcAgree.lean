/-
The model's rule classifiers are the repository's: each theorem equates one definition of
`Gen/PySrcRules.lean` (the Python source, translated statement by statement over `Model/PyRt.lean`)
with the corresponding function of the hand-written model, for all inputs.  The proofs fix the
operator of the node (on every other node both sides compute), keep the operands abstract and let
`pyrt` evaluate the class tests on them; an operand is taken apart only where the model matches on
its shape.  Here: associative, distribute, commutative, inverse, restate; the other four rules have a
file each (`PySrcAgreeDF` / `VM` / `CA` / `BM`).
-/
import Mathy.Gen.PySrcRules
import Mathy.Proofs.PyRtLemmas
import Mathy.Proofs.PySrcAgreeTerm
import Mathy.Model.Rules
namespace Mathy.SrcAgree
open Mathy.Py Mathy.Gen.Src

theorem associative_can_agree (k : Ctx) (n : Ex) :
    AssociativeSwapRule_can_apply_to (some ⟨k, n⟩) = asCan k n := by
  simp only [AssociativeSwapRule_can_apply_to, asCan, pyrt]
  cases parentIs .add k && n.isOp .add <;> cases parentIs .mul k && n.isOp .mul <;> rfl

theorem distribute_can_agree (k : Ctx) (n : Ex) :
    DistributiveMultiplyRule_can_apply_to (some ⟨k, n⟩) = dmCan n := by
  cases n with
  | bin t o l r =>
    cases o with
    | mul =>
      simp only [DistributiveMultiplyRule_can_apply_to, dmCan, pyrt]
      cases l.isOp .add <;> cases r.isOp .add <;> rfl
    | _ => rfl
  | _ => rfl

/-- the strings `MultiplicativeInverseRule.get_type` returns -/
def miPyType (n : Ex) : Option String :=
  match n with
  | .bin _ .div _ (.un _ .neg _) => some "division-negative-denominator"
  | .bin _ .div _ _ => some "division-expression"
  | _ => none

theorem inverse_type_agree (k : Ctx) (n : Ex) :
    MultiplicativeInverseRule_get_type (some ⟨k, n⟩) = miPyType n := by
  cases n with
  | bin t o l r =>
    cases o with
    | div =>
      cases r with
      | un rt ro rc => cases ro <;> rfl
      | _ => rfl
    | _ => rfl
  | _ => rfl

theorem inverse_can_agree (k : Ctx) (n : Ex) :
    (MultiplicativeInverseRule_get_type (some ⟨k, n⟩)).isSome = miCan n := by
  -- not through `inverse_type_agree`: off `miPyType` it takes a three-way `split`
  simp only [MultiplicativeInverseRule_get_type, miCan, pyrt]
  cases n.isOp .div with
  | false => rfl
  | true =>
    simp only [pyrt]
    cases isinstance (Ref.right (some ⟨k, n⟩)) [.NegateExpression] <;> rfl

/-- Only a product under `preferred = False` is inspected further.  On the shapes `const * var` and
`_ * var ^ const` the Python asks whether parent and sibling are products (the model's
`unlessComplex`); the model has a `match` on the right operand where the Python tests
`isinstance(node.right, PowerExpression)`. -/
theorem commutative_can_agree (preferred : Bool) (k : Ctx) (n : Ex) :
    CommutativeSwapRule_can_apply_to preferred (some ⟨k, n⟩) = csCan preferred k n := by
  cases n with
  | bin t o l r =>
    cases o with
    | mul =>
      cases preferred with
      | true => rfl
      | false =>
        have hn : isinstance (some ⟨k, .bin t .mul l r⟩) [.AddExpression, .EqualExpression] = false := rfl
        simp only [CommutativeSwapRule_can_apply_to, csCan, hn, beq_self_eq_true, pyrt]
        cases l.isConst && r.isVar with
        | true => rfl
        | false =>
          simp only [pyrt]
          cases r with
          | bin rt ro rl rr =>
            cases ro with
            | pow =>
              simp only [pyrt]
              rfl
            | _ => rfl
          | _ => rfl
    | _ => rfl
  | _ => rfl

/-- the strings `RestateSubtractionRule.get_type` returns -/
def RSType.pyName : RSType → String
  | .subtraction => "subtraction"
  | .subTermWithConst => "subtract-term-with-constant"
  | .subNegativeConst => "subtract-negative-constant"
  | .subNegateVariable => "subtract-negative-variable"
  | .addNegConst => "add_neg_const"
  | .addNegConstVar => "add_neg_const_var"
  | .addNegConstVarExp => "add_neg_const_var_exp"

/-- The model's `match` reads the right operand `r` two levels deep where the Python asks for the
classes of `r`, `r.left`, `r.right` in turn.  With `r` taken apart as far as the patterns go, both
sides compute (`rfl`), except for the sign of a constant: there `pyrt` evaluates the class tests and
leaves the same `if v < 0` on both sides. -/
theorem restate_type_agree (k : Ctx) (n : Ex) :
    RestateSubtractionRule_get_type (some ⟨k, n⟩) = (rsType k n).map RSType.pyName := by
  cases n with
  | bin t o l r =>
    cases o with
    | add =>
      have hn : isinstance (some ⟨k, .bin t .add l r⟩) [.SubtractExpression] = false := rfl
      simp only [RestateSubtractionRule_get_type, rsType, rsStep, hn, pyrt]
      cases r with
      | const rt v => simp only [pyrt, exshape, decide_eq_true_eq, apply_ite (Option.map _), RSType.pyName]
      | bin rt ro rl rr =>
        cases ro with
        | mul =>
          cases rl with
          | const lt v =>
            cases rr with
            | var => simp only [pyrt, exshape, decide_eq_true_eq, apply_ite (Option.map _), RSType.pyName]
            | bin _ bo _ _ =>
              cases bo with
              | pow => simp only [pyrt, exshape, decide_eq_true_eq, apply_ite (Option.map _), RSType.pyName]
              | _ => rfl
            | _ => rfl
          | _ => cases rr <;> rfl
        | _ => rfl
      | _ => rfl
    | sub =>
      have hn : isinstance (some ⟨k, .bin t .sub l r⟩) [.AddExpression] = false := rfl
      -- the parent test, in the form `pyrt` leaves it
      have hk : (k.isEmpty || parentIs .eq k || parentIs .add k) = rsParentOk k := rfl
      simp only [RestateSubtractionRule_get_type, rsType, rsStep, hn, hk, pyrt]
      cases rsParentOk k with
      | false => rfl
      | true =>
        simp only [pyrt]
        cases r with
        | const rt v => simp only [pyrt, exshape, decide_eq_true_eq, apply_ite (Option.map _), RSType.pyName]
        | var => rfl
        | un _ uo c =>
          cases uo with
          | neg => cases c <;> rfl
          | _ => rfl
        | bin rt ro rl rr =>
          cases ro with
          | mul => cases rl <;> rfl
          | _ => rfl
    | _ => rfl
  | _ => rfl

theorem restate_can_agree (k : Ctx) (n : Ex) :
    (RestateSubtractionRule_get_type (some ⟨k, n⟩)).isSome = rsCan k n := by
  rw [restate_type_agree, rsType, Option.isSome_map, Option.isSome_map, rsCan]

end Mathy.SrcAgree
