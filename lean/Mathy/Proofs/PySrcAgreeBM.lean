/-
`BalancedMoveRule.get_type` / `has_add_siblings` / `can_apply_to` (translated from the live source;
`get_root`, `get_root_side` and `find_type` are library calls = Model/PyRt.lean) agree with the
model's `bmType` / `bmCan`.  The `while` loop that climbs the chain of additions is translated into
a fuel-indexed function; that the fuel (depth + 1) suffices is proved here (`bm_climb_spec`).
-/
import Mathy.Proofs.PySrcAgree
import Mathy.Proofs.CtxLemmas
namespace Mathy.SrcAgree
open Mathy.Py Mathy.Gen.Src

/-- the strings `BalancedMoveRule.get_type` returns -/
def BMType.pyName : BMType → String
  | .addition => "TYPE_ADDITION" | .constOfMultiply => "TYPE_CONST_OF_MULTIPLY"

theorem anyHolds_add (e : Ex) : anyHolds .AddExpression e = hasAdd e := by
  induction e with
  | const t v => rfl
  | var t x => rfl
  | un t o c ih => simp only [anyHolds, hasAdd, holds_add, ih]; rfl
  | bin t o l r ihl ihr =>
    simp only [anyHolds, hasAdd, holds_add, ihl, ihr]
    cases o <;> rfl

/-- the `while isinstance(top.parent, AddExpression): top = top.parent` loop: started below a root
frame that is not an addition, with enough fuel, it ends directly below the root iff every frame
in between is an addition -/
theorem bm_climb_spec (rootF : Frame) (hr : rootF.isOp .add = false) :
    ∀ (rest : Ctx) (e : Ex) (fuel : Nat), rest.length + 1 ≤ fuel →
      (Ref.parent (BalancedMoveRule_get_type_loop3 fuel (some ⟨rest ++ [rootF], e⟩))
          != some ⟨[], plug (rest ++ [rootF]) e⟩) = !(allAdd rest) := by
  intro rest
  induction rest with
  | nil =>
    intro e fuel hf
    obtain ⟨fuel', rfl⟩ : ∃ m, fuel = m + 1 := ⟨fuel - 1, by omega⟩
    simp only [List.nil_append, BalancedMoveRule_get_type_loop3, pyrt, hr, allAdd, plug, bne_self_eq_false]
  | cons g rest ih =>
    intro e fuel hf
    obtain ⟨fuel', rfl⟩ : ∃ m, fuel = m + 1 := ⟨fuel - 1, by omega⟩
    simp only [List.length_cons] at hf
    simp only [List.cons_append, BalancedMoveRule_get_type_loop3, pyrt, allAdd, plug]
    cases hg : g.isOp .add with
    | true =>
      simp only [pyrt]
      exact ih (g.fill e) fuel' (by omega)
    | false =>
      simp only [pyrt]
      -- the loop stops below `g`, whose own context `rest ++ [rootF]` is not empty: the parent is not the root
      simp

theorem bm_root (n : Ex) : BalancedMoveRule_get_type (some ⟨[], n⟩) = none := by
  simp only [BalancedMoveRule_get_type, pyrt]

def BMAgree (inner : Ctx) (rootF : Frame) (n : Ex) : Prop :=
  BalancedMoveRule_get_type (some ⟨inner ++ [rootF], n⟩) = (bmType (inner ++ [rootF]) n).map BMType.pyName

theorem bm_un_root (inner : Ctx) (t : Nat) (o : Uop) (n : Ex) : BMAgree inner (.un t o) n := by
  unfold BMAgree bmType
  rw [splitRoot_snoc]
  -- the first test answers `None`: a unary root is no equation
  simp only [BalancedMoveRule_get_type, plug_snoc, Frame.isOp, pyrt]

theorem bm_direct_child (rootF : Frame) (n : Ex) : BMAgree [] rootF n := by
  unfold BMAgree bmType
  rw [splitRoot_snoc]
  -- the first test answers `None`: the root is no equation, or the node's parent (the root) is one
  cases h : rootF.isOp .eq <;>
  simp only [BalancedMoveRule_get_type, List.nil_append, plug, parentIs_cons, h, pyrt]

/-- A node at least two levels below the root.  The proof walks `get_type` test by test.  At each
test one answer makes the Python return `None` while the model's `if` chain gives `none`: that goal
is closed in the bullet, by the very `simp only [h, pyrt]` that evaluates the test, and the other
answer goes on.  (`cases h : b` fails here: the `Decidable` instances `simp` leaves keep `b`'s earlier form.) -/
theorem bm_inner (f : Frame) (inner : Ctx) (rootF : Frame) (n : Ex) : BMAgree (f :: inner) rootF n := by
  unfold BMAgree bmType
  rw [splitRoot_snoc]
  cases hre : rootF.isOp .eq with
  | false => simp only [BalancedMoveRule_get_type, plug_snoc, hre, pyrt]
  | true =>
    have hra : rootF.isOp .add = false := by
      rcases Frame.isOp_eq_true hre with ⟨t, r, rfl⟩ | ⟨t, l, rfl⟩ <;> rfl
    -- the climb of the `while` loop is `allAdd inner`
    have hloop := bm_climb_spec rootF hra inner (f.fill n) ((inner ++ [rootF]).length + 1) (by simp)
    rw [plug_snoc] at hloop
    have hside : ctxRootSide (f :: (inner ++ [rootF])) = ctxRootSide [rootF] := ctxRootSide_snoc (f :: inner) rootF
    simp only [BalancedMoveRule_get_type, BalancedMoveRule_has_add_siblings, plug_snoc, pyrt, List.cons_append, hre,
      hside, plug, hloop, parentIs_cons]
    -- the root frame is `□ = s` or `s = □`
    rcases Frame.isOp_eq_true hre with ⟨t, s, rfl⟩ | ⟨t, s, rfl⟩
    all_goals
      simp only [Frame.fill_binL, Frame.fill_binR, pyrt, String.reduceBEq, anyHolds_add, allAdd]
      -- `node.parent` is an equation
      rcases Bool.eq_false_or_eq_true (f.isOp .eq) with (h : _ = true) | h
      · simp only [h, pyrt]
      simp only [h, pyrt]
      -- a side of the root is an equation
      rcases Bool.eq_false_or_eq_true (Ex.isOp .eq (plug inner (f.fill n))) with (h : _ = true) | h
      · simp only [h, pyrt]
      simp only [h, pyrt]
      rcases Bool.eq_false_or_eq_true (Ex.isOp .eq s) with (h : _ = true) | h
      · simp only [h, pyrt]
      simp only [h, pyrt]
      rcases Bool.eq_false_or_eq_true n.isConst with (hc : _ = true) | hc
      · obtain ⟨nt, v, rfl⟩ := isConst_eq_true hc
        rcases Bool.eq_false_or_eq_true (f.isOp .mul) with (h : _ = true) | h
        · -- constant factor: zero, then `has_add_siblings` on the node's side of the root
          simp only [h, Ex.isConst, decide_eq_true_eq, pyrt]
          by_cases hv : v = 0
          · rw [if_pos hv, if_pos hv]
            rfl
          rw [if_neg hv, if_neg hv]
          rcases Bool.eq_false_or_eq_true (hasAdd (plug inner (f.fill (.const nt v)))) with h | h <;>
            simp only [h, pyrt] <;> rfl
        · -- constant addend
          simp only [h, Ex.isConst, pyrt]
          rcases Bool.eq_false_or_eq_true (f.isOp .add) with (h : _ = true) | h
          · simp only [h, pyrt]
            cases allAdd inner <;> rfl
          · simp only [h, pyrt]
      · -- addend that is not a constant: `get_term_ex(node)`, whose parent flag is off below `+`
        simp only [hc, pyrt]
        rcases Bool.eq_false_or_eq_true (f.isOp .add) with (ha : _ = true) | ha
        · simp only [ha, pyrt]
          cases allAdd inner
          · rfl
          rcases Frame.isOp_eq_true ha with ⟨_, _, rfl⟩ | ⟨_, _, rfl⟩
          all_goals
            simp only [pyrt]
            cases (getTermEx false n).isSome <;> rfl
        · simp only [ha, pyrt]

theorem bm_type_agree (k : Ctx) (n : Ex) :
    BalancedMoveRule_get_type (some ⟨k, n⟩) = (bmType k n).map BMType.pyName := by
  cases hk : splitRoot k with
  | none =>
    cases splitRoot_none hk
    rw [bm_root]; rfl
  | some p =>
    obtain ⟨inner, rootF⟩ := p
    cases splitRoot_eq_some_iff.mp hk
    cases inner with
    | nil => exact bm_direct_child rootF n
    | cons f inner => exact bm_inner f inner rootF n

theorem bm_can_agree (k : Ctx) (n : Ex) : BalancedMoveRule_can_apply_to (some ⟨k, n⟩) = bmCan k n := by
  unfold BalancedMoveRule_can_apply_to bmCan
  rw [bm_type_agree]
  cases bmType k n <;> rfl

end Mathy.SrcAgree
