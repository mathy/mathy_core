/-
From the per-rule lemmas to `applyRule`: root kind, value, truth.
-/
import Mathy.Proofs.RulesSound
import Mathy.Proofs.VMSound
import Mathy.Proofs.DFSound
import Mathy.Proofs.BMSound
namespace Mathy

theorem applyRule_kind {r : Rule} {k k' : Ctx} {n n' : Ex} (hc : canApply r k n = true)
    (h : applyRule r k n = .ok (k', n')) : (plug k' n').isOp .eq = (plug k n).isOp .eq := by
  cases r with
  | associative => obtain ⟨f, rfl, rot⟩ := (asApply_inv h).rot hc; exact plug_isOp_same k' rot.kind
  | commutative p => obtain ⟨rfl, arr⟩ := csApply_inv h; exact plug_isOp_same _ arr.kind
  | constants =>
    obtain ⟨rfl, arr⟩ := caApply_inv h
    exact plug_isOp_same _ arr.kind
  | factorOut _ =>
    obtain ⟨rfl, ln, rn, lt, rt, kw, core, d⟩ := dfApply_inv h
    rw [d.result]
    exact plug_isOp_same _ (d.arr.kind d.factored)
  | distribute => obtain ⟨rfl, arr⟩ := dmApply_inv h; exact plug_isOp_same _ arr.kind
  | inverse => obtain ⟨rfl, arr⟩ := miApply_inv h; exact plug_isOp_same _ arr.kind
  | restate => obtain ⟨rfl, arr⟩ := rsApply_inv h; exact plug_isOp_same _ arr.kind
  | variableMultiply =>
    obtain ⟨rfl, ln, rn, lt, rt, wrap, x, d⟩ := vmApply_inv h
    rw [d.result]
    exact plug_isOp_same _ (d.arr.kind _ _ _)
  | balancedMove =>
    obtain ⟨rfl, ty, inner, rootF, d⟩ := bmApply_inv h
    have hroot := (bmType_inv d.type d.split).root
    rw [bmType_root_eq d.type]
    cases d.arr <;> cases beq_iff_eq.mp hroot <;> rfl

theorem applyRule_refines {r : Rule} {k k' : Ctx} {n n' : Ex} (hr : r ≠ .balancedMove)
    (hc : canApply r k n = true) (h : applyRule r k n = .ok (k', n')) :
    Refines (plug k n) (plug k' n') := by
  cases r with
  | associative => obtain ⟨f, rfl, rot⟩ := (asApply_inv h).rot hc; exact rot.evalEq.refines.plug _
  | commutative p => obtain ⟨rfl, arr⟩ := csApply_inv h; exact (arr.evalEq hc).refines.plug _
  | constants => obtain ⟨rfl, arr⟩ := caApply_inv h; exact arr.evalEq.refines.plug _
  | factorOut c => exact (dfApply_sound h).refines
  | distribute => obtain ⟨rfl, arr⟩ := dmApply_inv h; exact arr.evalEq.refines.plug _
  | inverse => obtain ⟨rfl, arr⟩ := miApply_inv h; exact arr.evalEq.refines.plug _
  | restate => obtain ⟨rfl, arr⟩ := rsApply_inv h; exact arr.evalEq.refines.plug _
  | variableMultiply => exact vmApply_sound h
  | balancedMove => exact absurd rfl hr

theorem applyRule_holds {r : Rule} {k k' : Ctx} {n n' : Ex}
    (hc : canApply r k n = true) (h : applyRule r k n = .ok (k', n')) :
    HoldsRefines (plug k n) (plug k' n') := by
  by_cases hr : r = .balancedMove
  · subst hr; exact bmApply_sound h
  · exact (applyRule_refines hr hc h).holds

end Mathy
