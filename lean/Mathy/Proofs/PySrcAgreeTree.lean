/-
tree.py library methods used by the rule classifiers, translated from the live source, equal the
run-time library's definitions (Model/PyRt.lean): `get_root` (a `while` loop; the fuel depth + 1 is
proved sufficient) and `get_sibling` (node `==` is identity, i.e. same position).
-/
import Mathy.Gen.PySrcTree
namespace Mathy.SrcAgree
open Mathy.Py Mathy.Gen.Src

theorem get_root_loop_spec : ∀ (k : Ctx) (e : Ex) (fuel : Nat), k.length + 1 ≤ fuel →
    BinaryTreeNode_get_root_loop2 fuel (some ⟨k, e⟩) = some ⟨[], plug k e⟩
  | _, _, 0, h => nomatch h
  | [], _, _ + 1, _ => rfl
  | f :: k, e, m + 1, h => by
    simp only [BinaryTreeNode_get_root_loop2, Ref.parent, Ref.truthy, Option.isSome_some, if_true, plug]
    exact get_root_loop_spec k (f.fill e) m (Nat.le_of_succ_le_succ h)

theorem get_root_agree (r : Ref) : BinaryTreeNode_get_root r = Ref.get_root r := by
  rcases r with _ | ⟨k, e⟩
  · rfl
  · exact get_root_loop_spec k e _ (Nat.le_refl _)

theorem get_sibling_agree (r : Ref) : BinaryTreeNode_get_sibling r = Ref.get_sibling r := by
  rcases r with _ | ⟨_ | ⟨f, k⟩, e⟩
  · rfl
  · rfl
  · -- `==` on `Ref` compares positions, and a `binL` frame is never a `binR` frame
    cases f <;>
      simp [BinaryTreeNode_get_sibling, Ref.parent, Ref.truthy, Ref.left, Ref.right, Ref.get_sibling, Frame.fill]

end Mathy.SrcAgree
