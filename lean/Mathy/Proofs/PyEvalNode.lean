/-
The typed evaluator (`Model/PyEval.lean`) at a unary and a binary node, in `Except.bind` form: the
shape the translated evaluator has.
-/
import Mathy.Model.PyEval
namespace Mathy

theorem pyEval_un (env : PyEnv) (o : Uop) (c : PEx) :
    pyEval env (.un o c) = (pyEval env c).bind (pyUn o) := by
  rw [pyEval]
  cases pyEval env c <;> rfl

theorem pyEval_bin (env : PyEnv) (o : Bop) (l r : PEx) :
    pyEval env (.bin o l r) = (pyEval env l).bind fun a => (pyEval env r).bind (pyBin o a) := by
  rw [pyEval]
  cases pyEval env l <;> cases pyEval env r <;> rfl

end Mathy
