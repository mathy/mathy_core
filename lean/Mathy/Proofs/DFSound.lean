/-
Soundness of distributive factor-out: a*T + b*T => (a/g + b/g) * (g*T), six arrangements.
-/
import Mathy.Proofs.Terms
import Mathy.Proofs.Arr
namespace Mathy

theorem res_df_core_shared (l r g : Rat) (P : Res) :
    Res.bin .add (Res.bin .mul (.ok (g * l)) P) (Res.bin .mul (.ok (g * r)) P)
      = Res.bin .mul (Res.bin .add (.ok l) (.ok r)) (Res.bin .mul (.ok g) P) := by
  rw [Std.Commutative.comm (op := Res.bin .mul) (Res.bin .add _ _), res_mul_add, res_mul_ok, res_mul_ok]
  congr 1 <;> ac_rfl

theorem res_df_core_split (l r g : Rat) (P Q : Res) :
    Res.bin .add (Res.bin .mul (.ok (g * l)) P) (Res.bin .mul (.ok (g * r)) Q)
      = Res.bin .mul (Res.bin .add (Res.bin .mul (.ok l) P) (Res.bin .mul (.ok r) Q)) (.ok g) := by
  rw [Std.Commutative.comm (op := Res.bin .mul) (Res.bin .add _ _), res_mul_add, res_mul_ok, res_mul_ok]
  congr 1 <;> ac_rfl

/-- the variable part of a term: `x^e`, `x`, or nothing (`1`) -/
def TermEx.varRes (env : Env) (t : TermEx) : Res :=
  match t.var with
  | none => .ok 1
  | some x => evalPow (env x) (t.exp.getD 1)

theorem TermEx.res_eq_varRes (env : Env) (t : TermEx) :
    t.res env = Res.bin .mul (.ok (t.coef.getD 1)) (t.varRes env) := by
  rcases t with ⟨c, _ | x, e⟩
  · simp [TermEx.res, TermEx.varRes, evalBop]
  · exact TermEx.res_of_var env rfl

theorem varRes_congr (env : Env) (c c' : Option Rat) (v : Option Char) (e : Option Rat) :
    (TermEx.mk c v e).varRes env = (TermEx.mk c' v e).varRes env := rfl

theorem TermEx.res_mk_varRes (env : Env) (c : Rat) (t : TermEx) :
    (TermEx.mk (some c) t.var t.exp).res env = Res.bin .mul (.ok c) (t.varRes env) :=
  TermEx.res_eq_varRes env ⟨some c, t.var, t.exp⟩

theorem dfCore_sound {lt rt : TermEx} {core : Ex} (env : Env)
    (h : dfCore lt rt = some core) :
    Res.bin .add (lt.res env) (rt.res env) = eval env core := by
  obtain ⟨f, a, b, c, d⟩ := dfCore_inv h
  rw [d.result]
  simp only [eval]
  rw [makeTerm_sound env d.common, makeTerm_sound env d.left, makeTerm_sound env d.right,
    TermEx.res_eq_varRes env lt, TermEx.res_eq_varRes env rt]
  cases factorAddTermsEx_spec d.factor with
  | shared hl hr hv he =>
    have : rt.varRes env = lt.varRes env := by simp only [TermEx.varRes, hv, he]
    rw [← hl, ← hr, TermEx.res_mk_varRes, this]
    exact res_df_core_shared _ _ _ _
  | split hl hr =>
    rw [← hl, ← hr, TermEx.res_mk_varRes, TermEx.res_mk_varRes]
    exact res_df_core_split _ _ _ _ _

theorem DFArr.evalEq {n ln rn : Ex} {kw : Ctx} (h : DFArr n ln rn kw) :
    EvalEq n (plug kw (.bin 0 .add ln rn)) := by
  intro env
  cases h <;> simp only [plug, Frame.fill, eval] <;> ac_rfl

theorem dfApply_sound {k k' : Ctx} {n n' : Ex}
    (h : dfApply k n = .ok (k', n')) : EvalEq (plug k n) (plug k' n') := by
  obtain ⟨rfl, ln, rn, lt, rt, kw, core, d⟩ := dfApply_inv h
  rw [d.result]
  -- `n` is its two terms added inside `kw`; there `core` replaces the sum
  refine (d.arr.evalEq.trans (EvalEq.plug (fun env => ?_) kw)).plug _
  simp only [eval, getTermEx_sound env d.left, getTermEx_sound env d.right]
  exact dfCore_sound env d.factored

end Mathy
