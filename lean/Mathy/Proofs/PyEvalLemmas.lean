/-
Operator-level agreement between the typed evaluator (`Model/PyEval.lean`) and the rational
semantics (`Model/Expr.lean`): wherever the typed operator returns a number, the rational operator
returns the same number.
-/
import Mathy.Proofs.PyEvalNode
import Mathy.Proofs.Eval
import Mathlib.Tactic.SplitIfs
import Mathlib.Data.Rat.Cast.Order
namespace Mathy

theorem truncInt_intCast (z : Int) : truncInt (z : Rat) = z := by
  unfold truncInt
  split_ifs with h
  · exact Rat.floor_intCast z
  · rw [← Int.cast_neg, Rat.floor_intCast, neg_neg]

theorem pyUn_agree (o : Uop) (a v : PyVal) (qa q : Rat) (ha : a.toRat? = some qa)
    (hv : pyUn o a = .ok v) (hq : v.toRat? = some q) : evalUop o qa = .ok q := by
  cases a with
  | nan => cases ha
  | int z | flt x =>
    cases ha
    cases o with
    | fact =>
      -- both refuse a negative argument; on an int `truncInt` does nothing
      simp only [pyUn, pyFact] at hv
      split at hv
      next => cases hv
      next hz =>
        cases hv; cases hq
        simp only [evalUop, truncInt_intCast, if_neg hz, Int.cast_natCast]
    | neg | sgn | abs =>
      -- the same tests and operations, seen through the cast for an int
      simp only [pyUn, pyNeg, pySgn, pyAbs] at hv
      cases hv; cases hq
      simp only [evalUop, Int.cast_ite, Int.cast_neg, Int.cast_one, Int.cast_zero, Int.cast_lt_zero,
        Int.cast_pos]

theorem pyPow_flt {a b : PyVal} {x y : Rat} (hab : (a.isInt && b.isInt) = false)
    (ha : a.toRat? = some x) (hb : b.toRat? = some y) :
    pyPow a b = ((evalPow x y).map PyVal.flt).mapError fun _ => PyExc.unmodelled := by
  have flt : pyPow a b = pyPow (.flt x) (.flt y) := by
    cases a <;> cases b <;> cases ha <;> cases hb
    case int.int => cases hab
    all_goals rfl
  rw [flt]
  simp only [pyPow, PyVal.toRat?, evalPow]
  -- the float branch of `pyPow` makes the three tests of `evalPow`, in the same order
  split_ifs <;> rfl

theorem pyPow_agree (a b v : PyVal) (qa qb q : Rat) (ha : a.toRat? = some qa)
    (hb : b.toRat? = some qb) (hv : pyPow a b = .ok v) (hq : v.toRat? = some q) :
    evalPow qa qb = .ok q := by
  cases hab : a.isInt && b.isInt
  · rw [pyPow_flt hab ha hb] at hv
    cases he : evalPow qa qb with
    | error e => rw [he] at hv; cases hv
    | ok q' => rw [he] at hv; cases hv; cases hq; rfl
  · -- only two ints are left; their float branch is that of the casts
    cases a <;> cases b <;> cases hab
    cases ha; cases hb
    simp only [pyPow] at hv
    unfold evalPow
    simp only [Rat.den_intCast, Rat.num_intCast, Int.cast_eq_zero, if_true]
    split_ifs at hv ⊢ with h1 h2
    · cases hv; cases hq; exact congrArg _ (Int.cast_pow _ _).symm
    · cases hv; cases hq; rfl

theorem pyArith_toRat {f : Rat → Rat → Rat} {g : Int → Int → Int}
    (hfg : ∀ x y : Int, ((g x y : Int) : Rat) = f x y) {a b : PyVal} {qa qb : Rat}
    (ha : a.toRat? = some qa) (hb : b.toRat? = some qb) :
    (pyArith f g a b).toRat? = some (f qa qb) := by
  -- `nan` has no rational value; of the pairs of numbers only two ints take the integer operator
  cases a <;> cases b <;> cases ha <;> cases hb
  case int.int x y => exact congrArg some (hfg x y)
  all_goals rfl

theorem pyBin_agree (o : Bop) (a b v : PyVal) (qa qb q : Rat) (ha : a.toRat? = some qa)
    (hb : b.toRat? = some qb) (hv : pyBin o a b = .ok v) (hq : v.toRat? = some q) :
    evalBop o qa qb = .ok q := by
  cases o with
  | pow => exact pyPow_agree a b v qa qb q ha hb hv hq
  | div =>
    simp only [pyBin, pyDiv, hb, ha] at hv
    split_ifs at hv with h0
    · cases hv; cases hq
    · cases hv; cases hq; simp [evalBop, h0]
  | eq =>
    simp only [pyBin] at hv
    split_ifs at hv with he
    cases hv
    rw [ha] at hq
    cases hq
    -- on numbers `pyEq` compares the rational values
    have : qa = qb := by
      cases a <;> cases b <;> cases ha <;> cases hb <;> exact Option.some.inj (beq_iff_eq.1 he)
    simp [evalBop, this]
  | add | sub | mul =>
    obtain rfl := Except.ok.inj hv
    rw [pyArith_toRat (by intros; push_cast; rfl) ha hb] at hq
    exact congrArg _ (Option.some.inj hq)

end Mathy
