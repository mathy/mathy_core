/-
Facts about `Model/Expr.lean` alone: what a shape test says about the constructor, `plug` over `++`
and as a congruence (`plug_congr`), the focuses of a tree, and what ignores identities (`clone` is
`erase`).
-/
import Mathy.Model.Expr
namespace Mathy

theorem Ex.isOp_bin (o : Bop) (t : Nat) (o' : Bop) (l r : Ex) : (Ex.bin t o' l r).isOp o = (o == o') := rfl

theorem Ex.isOp_inv {o : Bop} {e : Ex} (h : e.isOp o = true) : ∃ t l r, e = .bin t o l r := by
  cases e with
  | bin t o' l r => cases beq_iff_eq.mp h; exact ⟨t, l, r, rfl⟩
  | _ => cases h

theorem Ex.isUn_inv {o : Uop} {e : Ex} (h : e.isUn o = true) : ∃ t c, e = .un t o c := by
  cases e with
  | un t o' c => cases beq_iff_eq.mp h; exact ⟨t, c, rfl⟩
  | _ => cases h

theorem parentIs_cons (o : Bop) (f : Frame) (k : Ctx) : parentIs o (f :: k) = f.isOp o := rfl

theorem Frame.fill_binL (t : Nat) (o : Bop) (r e : Ex) : Frame.fill (.binL t o r) e = .bin t o e r := rfl

theorem Frame.fill_binR (t : Nat) (o : Bop) (l e : Ex) : Frame.fill (.binR t o l) e = .bin t o l e := rfl

theorem isOp_fill (f : Frame) (o : Bop) (e : Ex) : (f.fill e).isOp o = f.isOp o := by
  cases f <;> rfl

theorem isOp_cases (o : Bop) (e : Ex) : (∃ t l r, e = .bin t o l r) ∨ e.isOp o = false := by
  cases h : e.isOp o with
  | false => exact .inr rfl
  | true => exact .inl (Ex.isOp_inv h)

theorem isConst_eq_true {e : Ex} (h : e.isConst = true) : ∃ t v, e = .const t v := by
  cases e with
  | const t v => exact ⟨t, v, rfl⟩
  | _ => cases h

theorem isVar_eq_true {e : Ex} (h : e.isVar = true) : ∃ t x, e = .var t x := by
  cases e with
  | var t x => exact ⟨t, x, rfl⟩
  | _ => cases h

theorem isBin_eq_true {e : Ex} (h : e.isBin = true) : ∃ t o l r, e = .bin t o l r := by
  cases e with
  | bin t o l r => exact ⟨t, o, l, r, rfl⟩
  | _ => cases h

theorem Frame.isOp_eq_true {o : Bop} {f : Frame} (h : f.isOp o = true) :
    (∃ t r, f = .binL t o r) ∨ (∃ t l, f = .binR t o l) := by
  rcases f with ⟨t, o', r⟩ | ⟨t, o', l⟩ | _
  · cases (eq_of_beq h : o = o'); exact .inl ⟨t, r, rfl⟩
  · cases (eq_of_beq h : o = o'); exact .inr ⟨t, l, rfl⟩
  · cases h

theorem plug_append (k₁ k₂ : Ctx) (e : Ex) : plug (k₁ ++ k₂) e = plug k₂ (plug k₁ e) := by
  induction k₁ generalizing e with
  | nil => rfl
  | cons f fs ih => exact ih _

theorem plug_congr {R : Ex → Ex → Prop} (hR : ∀ (f : Frame) {a b : Ex}, R a b → R (f.fill a) (f.fill b))
    {a b : Ex} (h : R a b) (k : Ctx) : R (plug k a) (plug k b) := by
  induction k generalizing a b with
  | nil => exact h
  | cons f fs ih => exact ih (hR f h)

theorem plug_isOp_same (k : Ctx) {o : Bop} {n n' : Ex} (h : n'.isOp o = n.isOp o) :
    (plug k n').isOp o = (plug k n).isOp o :=
  plug_congr (R := fun a b => a.isOp o = b.isOp o) (fun f _ _ _ => by rw [isOp_fill, isOp_fill]) h k

theorem focusesAux_plug (k0 : Ctx) (e : Ex) :
    ∀ p ∈ focusesAux k0 e, plug p.1 p.2 = plug k0 e := by
  induction e generalizing k0 with
  | const | var => intro p hp; simp [focusesAux] at hp; subst hp; rfl
  | un t o c ih =>
    intro p hp
    simp only [focusesAux, List.mem_cons] at hp
    rcases hp with rfl | hp
    · rfl
    · rw [ih _ p hp]; rfl
  | bin t o l r ihl ihr =>
    intro p hp
    simp only [focusesAux, List.mem_append, List.mem_cons] at hp
    rcases hp with hp | rfl | hp
    · rw [ihl _ p hp]; rfl
    · rfl
    · rw [ihr _ p hp]; rfl

theorem focusAt_plug {t : Ex} {i : Nat} {k : Ctx} {n : Ex} (h : focusAt t i = some (k, n)) :
    plug k n = t :=
  focusesAux_plug [] t (k, n) (List.mem_of_getElem? (l := focuses t) h)

theorem Ex.clone_eq_erase (e : Ex) : e.clone = e.erase := by
  induction e with
  | const | var => rfl
  | un t o c ih => rw [Ex.clone, Ex.erase, ih]
  | bin t o l r ihl ihr => rw [Ex.clone, Ex.erase, ihl, ihr]

theorem tags_clone (e : Ex) : ∀ x ∈ e.clone.tags, x = 0 := by
  induction e with
  | const | var => simp [Ex.clone, Ex.tags]
  | un t o c ih => simpa [Ex.clone, Ex.tags] using ih
  | bin t o l r ihl ihr =>
    intro x hx
    simp only [Ex.clone, Ex.tags, List.mem_append, List.mem_cons] at hx
    rcases hx with hx | rfl | hx
    · exact ihl x hx
    · rfl
    · exact ihr x hx

theorem count_clone {x : Nat} (hx : x ≠ 0) (e : Ex) : e.clone.tags.count x = 0 :=
  List.count_eq_zero.mpr fun h => hx (tags_clone e x h)

@[simp] theorem vars_clone (e : Ex) : e.clone.vars = e.vars := by
  induction e with
  | const | var => rfl
  | un t o c ih => simp [Ex.clone, Ex.vars, ih]
  | bin t o l r ihl ihr => simp [Ex.clone, Ex.vars, ihl, ihr]

@[simp] theorem eval_clone (env : Env) (e : Ex) : eval env e.clone = eval env e := by
  induction e with
  | const | var => rfl
  | un t o c ih => simp [Ex.clone, eval, ih]
  | bin t o l r ihl ihr => simp [Ex.clone, eval, ihl, ihr]

@[simp] theorem erase_isConst (e : Ex) : e.erase.isConst = e.isConst := by cases e <;> rfl
@[simp] theorem erase_isVar (e : Ex) : e.erase.isVar = e.isVar := by cases e <;> rfl
@[simp] theorem erase_isOp (o : Bop) (e : Ex) : e.erase.isOp o = e.isOp o := by cases e <;> rfl
@[simp] theorem erase_isUn (o : Uop) (e : Ex) : e.erase.isUn o = e.isUn o := by cases e <;> rfl

def Frame.clone : Frame → Frame
  | .binL _ o r => .binL 0 o r.clone
  | .binR _ o l => .binR 0 o l.clone
  | .un _ o => .un 0 o

theorem clone_plug (k : Ctx) (e : Ex) : (plug k e).clone = plug (k.map Frame.clone) e.clone := by
  induction k generalizing e with
  | nil => rfl
  | cons f fs ih =>
    simp only [plug, List.map_cons]
    rw [ih]
    cases f <;> rfl

theorem focusesAux_clone (k : Ctx) (e : Ex) :
    focusesAux (k.map Frame.clone) e.clone
      = (focusesAux k e).map (fun p => (p.1.map Frame.clone, p.2.clone)) := by
  induction e generalizing k with
  | const | var => rfl
  | un t o c ih =>
    simp only [Ex.clone, focusesAux, List.map_cons, ← ih]
    rfl
  | bin t o l r ihl ihr =>
    simp only [Ex.clone, focusesAux, List.map_append, List.map_cons, ← ihl, ← ihr]
    rfl

end Mathy
