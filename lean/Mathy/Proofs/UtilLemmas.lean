/-
Facts about `Model/Util.lean` alone: the shapes of node `get_term_ex` accepts and the trees `make_term`
builds, as relations; a proof about terms is a `cases` on the shape.
-/
import Mathy.Model.Util
namespace Mathy

/-- `n` is one of the seven shapes of term node and `tm` the triple read off it; a bare constant or
variable counts only below a parent that is no power (`p = false`). -/
inductive TermShape : Bool → Ex → TermEx → Prop
  | negVar {p t tx x} : TermShape p (.un t .neg (.var tx x)) ⟨some (-1), some x, none⟩
  | negPow {p t t' tx te x e} :
      TermShape p (.un t .neg (.bin t' .pow (.var tx x) (.const te e))) ⟨some (-1), some x, some e⟩
  | const {t v} : TermShape false (.const t v) ⟨some v, none, none⟩
  | var {t x} : TermShape false (.var t x) ⟨none, some x, none⟩
  | mulVar {p t tc tx c x} : TermShape p (.bin t .mul (.const tc c) (.var tx x)) ⟨some c, some x, none⟩
  | mulPow {p t tc t' tx te c x e} :
      TermShape p (.bin t .mul (.const tc c) (.bin t' .pow (.var tx x) (.const te e))) ⟨some c, some x, some e⟩
  | pow {p t tx te x e} : TermShape p (.bin t .pow (.var tx x) (.const te e)) ⟨none, some x, some e⟩

theorem getTermEx_inv {p : Bool} {n : Ex} {tm : TermEx} (h : getTermEx p n = some tm) :
    TermShape p n tm := by
  unfold getTermEx at h
  split at h
  -- arms 3 and 4, a bare constant or variable, ask for `p = false`; arm 8 is the wildcard
  case h_3 | h_4 =>
    cases p
    · cases h
      constructor
    · cases h
  case h_8 => cases h
  all_goals
    cases h
    constructor

theorem getTermEx_of_shape {p : Bool} {n : Ex} {tm : TermEx} (h : TermShape p n tm) :
    getTermEx p n = some tm := by
  cases h <;> rfl

theorem getTermEx_exp_none_of_var_none {p : Bool} {n : Ex} {tm : TermEx}
    (h : getTermEx p n = some tm) (hv : tm.var = none) : tm.exp = none := by
  cases getTermEx_inv h with
  | const => rfl
  | _ => cases hv

theorem getTermEx_mul_var {p : Bool} {t : Nat} {l r : Ex} {tm : TermEx}
    (h : getTermEx p (.bin t .mul l r) = some tm) : ∃ x, tm.var = some x := by
  cases getTermEx_inv h <;> exact ⟨_, rfl⟩

theorem getTermEx_vars {p : Bool} {n : Ex} {tm : TermEx} (h : getTermEx p n = some tm) (c : Char) :
    c ∈ n.vars ↔ tm.var = some c := by
  cases getTermEx_inv h <;> simp [Ex.vars, eq_comm]

/-- `m` is the tree `make_term` builds from the triple; a coefficient 1 is left out. -/
inductive MadeTerm : Rat → Option Char → Option Rat → Ex → Prop
  | const {c} : MadeTerm c none none (.const 0 c)
  | var {x} : MadeTerm 1 (some x) none (.var 0 x)
  | mulVar {c x} : c ≠ 1 → MadeTerm c (some x) none (.bin 0 .mul (.const 0 c) (.var 0 x))
  | pow {x e} : MadeTerm 1 (some x) (some e) (.bin 0 .pow (.var 0 x) (.const 0 e))
  | mulPow {c x e} : c ≠ 1 →
      MadeTerm c (some x) (some e) (.bin 0 .mul (.const 0 c) (.bin 0 .pow (.var 0 x) (.const 0 e)))

theorem makeTerm_inv {c : Rat} {v : Option Char} {e : Option Rat} {m : Ex}
    (h : makeTerm c v e = some m) : MadeTerm c v e m := by
  unfold makeTerm at h
  split at h
  case h_1 =>
    cases h
    exact .const
  case h_2 => cases h
  -- with a variable, without or with an exponent: the coefficient is written unless it is 1
  all_goals
    split at h
    next hc =>
      cases h
      subst hc
      constructor
    next hc =>
      cases h
      constructor
      exact hc

theorem makeTerm_isSome (c : Rat) {v : Option Char} {e : Option Rat} (h : v = none → e = none) :
    ∃ m, makeTerm c v e = some m := by
  cases v with
  | none =>
    cases h rfl
    exact ⟨_, rfl⟩
  | some x =>
    cases e <;> simp only [makeTerm] <;> split <;> exact ⟨_, rfl⟩

theorem makeTerm_vars {q : Rat} {v : Option Char} {e : Option Rat} {m : Ex}
    (h : makeTerm q v e = some m) (c : Char) : c ∈ m.vars ↔ v = some c := by
  cases makeTerm_inv h <;> simp [Ex.vars, eq_comm]

theorem makeTerm_tags {q : Rat} {v : Option Char} {e : Option Rat} {m : Ex}
    (h : makeTerm q v e = some m) {x : Nat} (hx : x ≠ 0) : m.tags.count x = 0 := by
  cases makeTerm_inv h <;> simp [Ex.tags, hx.symm]

end Mathy
