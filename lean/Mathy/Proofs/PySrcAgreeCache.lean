/-
History independence of the TRANSLATED parser object (C12, C10 "no sticky state"): the caching front
`ExpressionParser.parse / tokenize / clear_cache` as translated from the live parser.py.
-/
import Mathy.Proofs.PySrcAgreeParse5
namespace Mathy.SrcAgree
open Mathy.Py Mathy.Gen.Src

theorem dictGet_set_self {β : Type} (d : List (List Char × β)) (k : List Char) (v : β) :
    dictGet (pyDictSet d k v) k = .ok v := by
  simp [pyDictSet, dictGet]

theorem forall_mem_pyDictSet {β : Type} {P : List Char × β → Prop} {d : List (List Char × β)} {k : List Char} {v : β}
    (h0 : P (k, v)) (h : ∀ p ∈ d, P p) : ∀ p ∈ pyDictSet d k v, P p := by
  intro p hp
  rw [pyDictSet, List.mem_cons, List.mem_filter] at hp
  rcases hp with rfl | hp
  exacts [h0, h p hp.1]

theorem dictGet_of_has {β : Type} {d : List (List Char × β)} {k : List Char} (h : pyDictHas d k = true) :
    ∃ v, dictGet d k = .ok v ∧ (k, v) ∈ d := by
  induction d with
  | nil => cases h
  | cons p d ih =>
    obtain ⟨a, v⟩ := p
    rw [dictGet]
    split
    · next hk => exact ⟨v, rfl, List.mem_cons.2 (.inl (by rw [beq_iff_eq.1 hk]))⟩
    · next hk =>
      obtain ⟨w, hw, hm⟩ := ih (by simpa [pyDictHas, hk] using h)
      exact ⟨w, hw, List.mem_cons_of_mem _ hm⟩

theorem dictGet_of_not_has {β : Type} (d : List (List Char × β)) (k : List Char) (h : pyDictHas d k = false) :
    dictGet d k = .error .KeyError := by
  induction d with
  | nil => rfl
  | cons p d ih =>
    obtain ⟨a, v⟩ := p
    simp only [pyDictHas, Bool.or_eq_false_iff] at h
    simp [dictGet, h.1, ih h.2]

/-- an entry is what a fresh call computes; a tree, from every state `st`: the state at the later
hit is unrelated to the one it was parsed in -/
structure CacheInv (o : ParserObj) : Prop where
  toks : ∀ p ∈ o.tokens_cache, Tokenizer_tokenize true p.1 = .ok p.2
  trees : ∀ p ∈ o.parse_cache, ∀ st, srcParseText st p.1 = .ok p.2

theorem inv_clear (o : ParserObj) : CacheInv (ExpressionParser_clear_cache o) := ⟨nofun, nofun⟩

theorem inv_init : CacheInv ExpressionParser_init := inv_clear _

theorem tokenize_fresh (o : ParserObj) (s : List Char) (h : CacheInv o) :
    (ExpressionParser_tokenize o s).1 = Tokenizer_tokenize true s ∧ CacheInv (ExpressionParser_tokenize o s).2 ∧
    (ExpressionParser_tokenize o s).2.core = o.core := by
  unfold ExpressionParser_tokenize
  cases hh : pyDictHas o.tokens_cache s <;> simp only [Bool.not_false, Bool.not_true, if_true, Bool.false_eq_true, if_false]
  · cases ht : Tokenizer_tokenize true s with
    | error e => exact ⟨rfl, h, rfl⟩
    | ok v => exact ⟨dictGet_set_self _ _ _, ⟨forall_mem_pyDictSet ht h.toks, h.trees⟩, rfl⟩
  · obtain ⟨v, hv, hm⟩ := dictGet_of_has hh
    exact ⟨by rw [hv, h.toks _ hm], h, trivial⟩

theorem parse_fresh (o : ParserObj) (s : List Char) (h : CacheInv o) :
    (ExpressionParser_parse o s).1 = srcParseText o.core s ∧ CacheInv (ExpressionParser_parse o s).2 := by
  unfold ExpressionParser_parse
  cases hh : pyDictHas o.parse_cache s <;> simp only [if_true, Bool.false_eq_true, if_false]
  · obtain ⟨ht1, ht2, ht3⟩ := tokenize_fresh o s h
    generalize ExpressionParser_tokenize o s = r at ht1 ht2 ht3
    obtain ⟨res, o1⟩ := r
    simp only at ht1 ht2 ht3
    subst ht1
    unfold srcParseText
    cases htk : Tokenizer_tokenize true s with
    | error e => exact ⟨rfl, ht2⟩
    | ok toks =>
      simp only [ht3]
      cases hp : ExpressionParser__parse o.core toks with
      | error e => exact ⟨rfl, ht2⟩
      | ok r5 =>
        refine ⟨dictGet_set_self _ _ _, ⟨ht2.toks, forall_mem_pyDictSet (fun st => ?_) ht2.trees⟩⟩
        -- the tree was parsed from the state `o.core`; the outcome is the same from every state
        rw [parseText_agree st s, ← parseText_agree o.core s]; simp only [srcParseText, htk, hp]; rfl
  · obtain ⟨e, he, hm⟩ := dictGet_of_has hh
    exact ⟨by rw [he, h.trees _ hm o.core], h⟩

/-- what a client does with one long-lived parser object -/
inductive COp where
  | parse (s : List Char)
  | tokenize (s : List Char)
  | clear

inductive CAns where
  | tree (r : Except PyErr Ex)
  | toks (r : Except PyErr (List Token))
  | unit

def cstep (o : ParserObj) : COp → CAns × ParserObj
  | .parse s => let r := ExpressionParser_parse o s; (.tree r.1, r.2)
  | .tokenize s => let r := ExpressionParser_tokenize o s; (.toks r.1, r.2)
  | .clear => (.unit, ExpressionParser_clear_cache o)

/-- a history: before every operation the parsing fields (`tokens`, `current_token`) are replaced by an
ARBITRARY state — whatever an earlier, possibly failed, `_parse` left behind -/
def crun (o : ParserObj) : List (ParserState × COp) → List CAns
  | [] => []
  | (st, op) :: rest => let r := cstep { o with core := st } op; r.1 :: crun r.2 rest

theorem inv_step (o : ParserObj) (op : COp) (h : CacheInv o) : CacheInv (cstep o op).2 := by
  cases op with
  | parse s => exact (parse_fresh o s h).2
  | tokenize s => exact (tokenize_fresh o s h).2.1
  | clear => exact inv_clear o

theorem crun_fresh : ∀ (hist : List (ParserState × COp)) (o : ParserObj), CacheInv o →
    crun o hist = hist.map (fun p => match p.2 with
      | .parse s => .tree (outcomeOf s (parseText s))
      | .tokenize s => .toks (Tokenizer_tokenize true s)
      | .clear => .unit)
  | [], _, _ => rfl
  | (st, op) :: rest, o, h => by
    have h' : CacheInv { o with core := st } := ⟨h.toks, h.trees⟩
    simp only [crun, List.map_cons]
    rw [crun_fresh rest _ (inv_step _ op h')]
    congr 1
    cases op with
    | parse s => simp only [cstep]; rw [(parse_fresh _ s h').1, parseText_agree]
    | tokenize s => simp only [cstep]; rw [(tokenize_fresh _ s h').1]
    | clear => rfl

end Mathy.SrcAgree
