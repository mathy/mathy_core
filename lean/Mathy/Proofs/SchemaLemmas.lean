/-
Facts about `factor` / `factor_add_terms_ex` used by the schema theorems of property C08:
for a coefficient `v ≥ 1` the dictionary `factor v` has the key `1` (with value `v`) and no key
below `1`, so the smallest common factor of two such coefficients is `1`.
-/
import Mathy.Proofs.FactorLemmas
namespace Mathy

theorem factor_get_one {v : Rat} (hv : 1 ≤ v) : dictGet? (factor v) 1 = some v := by
  obtain ⟨w, hw⟩ := Option.isSome_iff_exists.mp ((dictHas_iff (factor v) 1).mpr (factor_keys hv).2)
  rw [hw, ← dictGet_ok (factor_ok v) hw, one_mul]

theorem listMin_spec {l : List Rat} (hl : l ≠ []) :
    ∃ m, listMin l = some m ∧ m ∈ l ∧ ∀ x ∈ l, m ≤ x := by
  induction l with
  | nil => exact absurd rfl hl
  | cons x xs ih =>
    cases xs with
    | nil => exact ⟨x, rfl, by simp, by simp⟩
    | cons y ys =>
      obtain ⟨m, hm, hmem, hle⟩ := ih (List.cons_ne_nil y ys)
      rw [listMin, hm]
      by_cases hx : x ≤ m
      · refine ⟨x, congrArg some (if_pos hx), List.mem_cons_self, fun z hz => ?_⟩
        rcases List.mem_cons.mp hz with rfl | hz
        · exact le_rfl
        · exact hx.trans (hle z hz)
      · refine ⟨m, congrArg some (if_neg hx), List.mem_cons_of_mem _ hmem, fun z hz => ?_⟩
        rcases List.mem_cons.mp hz with rfl | hz
        · exact le_of_not_ge hx
        · exact hle z hz

theorem listMin_common_factor {a b : Rat} (ha : 1 ≤ a) (hb : 1 ≤ b) :
    listMin (((factor b).map (·.1)).filter (dictHas (factor a))) = some 1 := by
  have h1 : (1 : Rat) ∈ ((factor b).map (·.1)).filter (dictHas (factor a)) :=
    List.mem_filter.mpr ⟨(factor_keys hb).2, (dictHas_iff _ _).mpr (factor_keys ha).2⟩
  obtain ⟨m, hm, hmem, hle⟩ := listMin_spec (List.ne_nil_of_mem h1)
  rw [hm, le_antisymm (hle 1 h1) ((factor_keys hb).1 m (List.mem_filter.mp hmem).1)]

theorem factorAddTermsEx_mulVar {a b : Rat} (ha : 1 ≤ a) (hb : 1 ≤ b) (x y : Char) :
    factorAddTermsEx ⟨some a, some x, none⟩ ⟨some b, some y, none⟩ = some
      { best := 1, left := a, right := b, comVar := if x = y then some x else none, comExp := none,
        leftExp := none, rightExp := none,
        leftVar := if x = y then none else some x, rightVar := if x = y then none else some y } := by
  simp only [factorAddTermsEx, Option.getD_some, Option.isSome_some, Bool.or_true, if_true,
    listMin_common_factor ha hb, factor_get_one ha, factor_get_one hb]
  by_cases h : x = y <;> simp [h]

end Mathy
