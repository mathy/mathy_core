/-
The hand-written model uses exactly the tables of the live code (`Gen/Tables.lean` is
regenerated from the repository on every run): token-type bits, the FIRST / precedence sets of the
parser, the outcome of the tokenizer on every single ASCII character (plus a few non-ASCII
probes) in both padding modes, operator priorities and the registered function names.
A change to one of these tables in the code makes this file fail to build.
-/
import Mathy.Gen.Tables
import Mathy.Model.Parser
import Mathy.Model.Print
namespace Mathy

def allTT : List TT :=
  [.constant, .variable, .plus, .minus, .multiply, .divide, .exponent, .factorial, .openParen,
   .closeParen, .function, .equal, .pad, .eof, .invalid]

/-- `∀ t ∈ allTT` below (a bounded quantifier, for `decide`) is `∀ t` -/
theorem mem_allTT (t : TT) : t ∈ allTT := by
  cases t <;> decide

theorem tables_token_bits : Gen.tokenBits = allTT.map fun t => (t, t.bit) := by decide

def inMask (m : Nat) (t : TT) : Bool := (m >>> t.bit) % 2 == 1

theorem tables_first_sets :
    (∀ t ∈ allTT, firstFunction t = inMask Gen.mask_FIRST_FUNCTION t) ∧
    (∀ t ∈ allTT, firstFactor t = inMask Gen.mask_FIRST_FACTOR t) ∧
    (∀ t ∈ allTT, firstFactorPrefix t = inMask Gen.mask_FIRST_FACTOR_PREFIX t) ∧
    (∀ t ∈ allTT, firstUnary t = inMask Gen.mask_FIRST_UNARY t) ∧
    (∀ t ∈ allTT, firstExp t = inMask Gen.mask_FIRST_EXP t) ∧
    (∀ t ∈ allTT, firstMult t = inMask Gen.mask_FIRST_MULT t) ∧
    (∀ t ∈ allTT, firstAdd t = inMask Gen.mask_FIRST_ADD t) ∧
    (∀ t ∈ allTT, isAddTok t = inMask Gen.mask_IS_ADD t) ∧
    (∀ t ∈ allTT, isMultTok t = inMask Gen.mask_IS_MULT t) ∧
    (∀ t ∈ allTT, isExpTok t = inMask Gen.mask_IS_EXP t) ∧
    (∀ t ∈ allTT, isEqualTok t = inMask Gen.mask_IS_EQUAL t) := by decide

def ttName : TT → String
  | .constant => "Constant" | .variable => "Variable" | .plus => "Plus" | .minus => "Minus"
  | .multiply => "Multiply" | .divide => "Divide" | .exponent => "Exponent"
  | .factorial => "Factorial" | .openParen => "OpenParen" | .closeParen => "CloseParen"
  | .function => "Function" | .equal => "Equal" | .pad => "Pad" | .eof => "EOF" | .invalid => "Invalid"

/-- what the model tokenizer does on a one-character string, in the table's notation -/
def charOutcome (pad : Bool) (cp : Nat) : String :=
  match tokenize pad [Char.ofNat cp] with
  | .error _ => "error"
  | .ok ts =>
    match ts.dropLast with
    | [] => "none"
    | [t] => match t.value with
      | [c] => ttName t.type ++ ":" ++ toString c.toNat
      | _ => ttName t.type ++ ":-1"
    | _ => "multi"

/-- every row is the model's outcome on its code point, said as one decidable equation between lists -/
theorem tables_characters :
    Gen.charTable = (Gen.charTable.map (·.1)).map fun cp => (cp, charOutcome true cp, charOutcome false cp) := by
  decide +kernel

/-- the code points `tables_characters` speaks of (those the table lists) begin with all of ASCII -/
theorem tables_char_domain : (Gen.charTable.map (·.1)).take 128 = List.range 128 := by decide +kernel

theorem tables_priorities :
    Gen.priorities = [("EqualExpression", Bop.eq.priority), ("AddExpression", Bop.add.priority),
      ("SubtractExpression", Bop.sub.priority), ("MultiplyExpression", Bop.mul.priority),
      ("DivideExpression", Bop.div.priority), ("PowerExpression", Bop.pow.priority)] := by decide

theorem tables_functions : Gen.functionNames = functionNames.map String.ofList := by decide

end Mathy
