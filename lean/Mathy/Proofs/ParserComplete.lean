/-
Completeness of the parser model with respect to the grammar of `Spec/Grammar.lean`: on a
derivation followed by a token at which the parser must stop, every parser function returns the
prescribed tree and the rest, at every fuel at which it does not run out (`UpTo`).  By induction
on the fuel, each function reading a derivation by its step equation and `RH n` for the parts.
That the fuel of `parseToks` does not run out is `PF.parseEqual_ne_fuel`.
-/
import Mathy.Proofs.GrammarLemmas
import Mathy.Proofs.ParserFuelAux
namespace Mathy
namespace PC
open G

/-- on `ts` followed by a `rest` that satisfies `follow`, `p` returns `e` and leaves `rest` -/
abbrev Reads (p : List Tok → PRes) (follow : List Tok → Prop) (ts : List Tok) (e : Ex) : Prop :=
  ∀ rest, follow rest → UpTo (p (ts ++ rest)) (.ok (e, rest))

/-- after `parse_factors` / `parse_unary`: no further factor, and a caret only where `ts` cannot
take it itself (after a literal or `!`) -/
def followU (ts rest : List Tok) : Prop :=
  firstFactor (headType rest) = false ∧ (isExpTok (headType rest) = false ∨ endsClosed ts = true)

theorem followU.drop (a : List Tok) {ts rest : List Tok} (h : followU (a ++ ts) rest)
    (hne : ts ≠ []) : followU ts rest :=
  ⟨h.1, h.2.imp_right fun h => by rwa [endsClosed_append _ hne] at h⟩

theorem followU_of_contE {ts rest : List Tok} (h : contE (headType rest) = true) :
    followU ts rest := ⟨contE_ff h, .inl (contE_exp h)⟩

theorem contA_closeParen {c : Tok} (hc : c.type = .closeParen) (rest : List Tok) :
    contA (headType (c :: rest)) = true := by rw [headType_cons, hc]; rfl

theorem firstFactor_exponent {x : Tok} (hx : x.type = .exponent) (rest : List Tok) :
    firstFactor (headType (x :: rest)) = false := by rw [headType_cons, hx]; rfl

/-- `cont*` and `followU` make the function stop: the counterpart of what `PS.IH` reports about
the rest -/
structure RH (n : Nat) : Prop where
  fn : ∀ {ts e} {f o c : Tok}, f.type = .function → o.type = .openParen → c.type = .closeParen →
    AddE ts e → ∀ rest,
    UpTo (parseFunction n (f :: o :: (ts ++ c :: rest))) (.ok (.un 0 .sgn e, rest))
  fl : ∀ {ts es}, PrimSeq ts es → ∀ acc rest, firstFactor (headType rest) = false →
    UpTo (factorsLoop n acc (ts ++ rest)) (.ok (es.reverse ++ acc, rest))
  factors : ∀ {ts e}, Factors ts e → Reads (parseFactors n) (followU ts) ts e
  unary : ∀ {ts e}, UnaryE ts e → Reads (parseUnary n) (followU ts) ts e
  exp : ∀ {ts e}, ExpE ts e → Reads (parseExponent n) (fun rest => contE (headType rest) = true) ts e
  multL : ∀ {acc ts e}, MultLoop acc ts e →
    Reads (multLoop n acc) (fun rest => contM (headType rest) = true) ts e
  mult : ∀ {ts e}, MultE ts e → Reads (parseMult n) (fun rest => contM (headType rest) = true) ts e
  addL : ∀ {acc ts e}, AddLoop acc ts e →
    Reads (addLoop n acc) (fun rest => contA (headType rest) = true) ts e
  add : ∀ {ts e}, AddE ts e → Reads (parseAdd n) (fun rest => contA (headType rest) = true) ts e

theorem prim_reads {n : Nat} (ih : RH n) {ts e} (h : Prim ts e) (acc : List Ex) (rest : List Tok) :
    UpTo (factorsLoop (n + 1) acc (ts ++ rest)) (factorsNext n acc e rest) := by
  cases h with
  | var t h =>
    rw [List.singleton_append, factorsLoop_succ, headType_cons, if_pos h,
      eat_cons _ h (by decide)]
    exact .rfl
  | fn f o c hf ho hc a =>
    simp only [List.cons_append, List.append_assoc, List.nil_append]
    rw [factorsLoop_succ, headType_cons, hf, if_neg (by decide), if_pos (by decide)]
    exact (ih.fn hf ho hc a rest).bind .rfl
  | paren o c ho hc a =>
    simp only [List.cons_append, List.append_assoc, List.nil_append]
    rw [factorsLoop_succ, headType_cons, ho, if_neg (by decide), if_neg (by decide), if_pos (by decide),
      eat_cons _ ho (by decide), ok_bind]
    refine (ih.add a (c :: rest) (contA_closeParen hc rest)).bind ?_
    simp only [eat_cons _ hc (by decide), ok_bind]
    exact .rfl

theorem rh_succ {n : Nat} (ih : RH n) : RH (n + 1) where
  fn {ts e f o c} hf ho hc a rest := by
    rw [parseFunction_succ, headType_cons, eat_cons _ rfl (by rw [hf]; decide), ok_bind,
      eat_cons _ ho (by decide), ok_bind]
    refine (ih.add a (c :: rest) (contA_closeParen hc rest)).bind ?_
    simp only [eat_cons _ hc (by decide), ok_bind]
    exact .rfl
  fl h acc rest hr := by
    cases h with
    | one a =>
      refine (prim_reads ih a acc rest).trans ?_
      rw [factorsNext_stop hr]
      exact .rfl
    | cons a b =>
      rw [List.append_assoc]
      refine (prim_reads ih a acc _).trans ?_
      rw [factorsNext_more (primStart_firstFactor ((hd_PrimSeq b).head rest)),
        List.reverse_cons, List.append_assoc]
      exact ih.fl b _ rest hr
  factors h rest hf := by
    cases h with
    | @plain _ f0 fs a =>
      have hx : isExpTok (headType rest) = false :=
        hf.2.resolve_right (by rw [primSeq_open a]; decide)
      obtain ⟨init, last, heq⟩ : ∃ init last, f0 :: fs = init ++ [last] :=
        ⟨_, _, (List.dropLast_concat_getLast (List.cons_ne_nil f0 fs)).symm⟩
      have hrev : (f0 :: fs).reverse ++ [] = last :: init.reverse := by rw [heq]; simp
      rw [parseFactors_succ]
      refine (ih.fl a [] rest hf.1).bind ?_
      simp only [hrev, powTail_none hx, ok_bind, List.reverse_reverse, ← heq]
      exact .rfl
    | @pow x hx _ us _ last u _ _ a b heq =>
      rw [List.append_cons] at hf
      have hf := hf.drop _ (hd_UnaryE b).ne_nil
      rw [List.append_assoc, parseFactors_succ]
      refine (ih.fl a [] (x :: us ++ rest) (firstFactor_exponent hx _)).bind ?_
      simp only [List.reverse_append, List.reverse_cons, List.reverse_nil, List.nil_append,
        List.append_nil, List.cons_append, powTail_some hx ((hd_UnaryE b).firstUnary rest)]
      refine UpTo.bind (a := (.bin 0 .pow last u, rest)) ((ih.unary b rest hf).bind .rfl) ?_
      simp only [List.reverse_reverse, heq]
      exact .rfl
  unary h rest hf := by
    cases h with
    | lit c q h =>
      rw [List.singleton_append, parseUnary_lit h, litTail_none hf.1]
      exact .rfl
    | negLit m c q hm h =>
      rw [show [m, c] ++ rest = m :: c :: rest from rfl, parseUnary_minus hm, unaryBody_lit h,
        litTail_none hf.1]
      exact .rfl
    | fact c b q h hb =>
      rw [show [c, b] ++ rest = c :: b :: rest from rfl, parseUnary_lit h, litTail_fact hb]
      exact .rfl
    | negFact m c b q hm h hb =>
      rw [show [m, c, b] ++ rest = m :: c :: b :: rest from rfl, parseUnary_minus hm, unaryBody_lit h,
        litTail_fact hb]
      exact .rfl
    | litFactors c q h a =>
      have hs := (hd_Factors a).head rest
      rw [List.cons_append, parseUnary_lit h,
        litTail_factors (primStart_firstFactor hs) (primStart_not_factorial hs)]
      exact (ih.factors a rest (hf.drop [_] (hd_Factors a).ne_nil)).bind .rfl
    | negLitFactors m c q hm h a =>
      have hs := (hd_Factors a).head rest
      rw [List.cons_append, List.cons_append, parseUnary_minus hm, unaryBody_lit h,
        litTail_factors (primStart_firstFactor hs) (primStart_not_factorial hs)]
      exact (ih.factors a rest (hf.drop [_, _] (hd_Factors a).ne_nil)).bind .rfl
    | factors a =>
      have hs := (hd_Factors a).head rest
      rw [parseUnary_plain (primStart_not_minus hs),
        unaryBody_factors (primStart_not_constant hs) (primStart_firstFactor hs)]
      exact (ih.factors a rest hf).bind .rfl
    | negFactors m hm a =>
      have hs := (hd_Factors a).head rest
      rw [List.cons_append, parseUnary_minus hm,
        unaryBody_factors (primStart_not_constant hs) (primStart_firstFactor hs)]
      exact (ih.factors a rest (hf.drop [_] (hd_Factors a).ne_nil)).bind .rfl
  exp h rest hr := by
    cases h with
    | unary a =>
      rw [parseExponent_succ, (hd_UnaryE a).firstUnary rest]
      refine (ih.unary a rest (followU_of_contE hr)).bind ?_
      exact .inr (powTail_none (contE_exp hr))
    | @pow x hx _ us _ _ a hc a' =>
      rw [List.append_assoc, parseExponent_succ, (hd_UnaryE a).firstUnary _]
      refine (ih.unary a (x :: us ++ rest) ⟨firstFactor_exponent hx _, .inr hc⟩).bind ?_
      simp only [List.cons_append, powTail_some hx ((hd_UnaryE a').firstUnary rest)]
      exact (ih.unary a' rest (followU_of_contE hr)).bind .rfl
  multL h rest hr := by
    cases h with
    | done acc =>
      rw [List.nil_append, multLoop_succ, contM_mult hr]
      exact .rfl
    | div d hd a a' =>
      rw [List.cons_append, List.cons_append, List.append_assoc, multLoop_cons (by rw [hd]; rfl), hd,
        if_pos (show firstExp _ = true from (hd_ExpE a).firstUnary _)]
      exact (ih.exp a _ (cont_MultLoop a' hr)).bind (ih.multL a' rest hr)
    | mul m hm a =>
      rw [List.cons_append, multLoop_cons (by rw [hm]; rfl), hm,
        if_pos (show firstExp _ = true from (hd_MultE a).firstUnary _)]
      -- a `*` takes the whole rest: the loop stops at once (`.done` on `[] ++ rest`); by `hm` its tests compute
      exact (ih.mult a rest hr).bind (ih.multL (.done _) rest hr)
  mult h rest hr := by
    obtain ⟨a, a'⟩ := h
    rw [List.append_assoc, parseMult_succ, show firstExp _ = true from (hd_ExpE a).firstUnary _]
    exact (ih.exp a _ (cont_MultLoop a' hr)).bind (ih.multL a' rest hr)
  addL h rest hr := by
    cases h with
    | done acc =>
      rw [List.nil_append, addLoop_succ, contA_add hr]
      exact .rfl
    | plus p hp a a' | minus p hp a a' =>
      rw [List.cons_append, List.cons_append, List.append_assoc, addLoop_cons (by rw [hp]; rfl), hp,
        if_pos (show firstMult _ = true from (hd_MultE a).firstUnary _)]
      -- by `hp`, `if · == .plus` computes to the operator of the production
      exact (ih.mult a _ (cont_AddLoop a' hr)).bind (ih.addL a' rest hr)
  add h rest hr := by
    obtain ⟨a, a'⟩ := h
    rw [List.append_assoc, parseAdd_succ, show firstMult _ = true from (hd_MultE a).firstUnary _]
    exact (ih.mult a _ (cont_AddLoop a' hr)).bind (ih.addL a' rest hr)

theorem rh_all : ∀ n, RH n
  | 0 => {
    fn := fun _ _ _ _ _ => .inl rfl
    fl := fun _ _ _ _ => .inl rfl
    factors := fun _ _ _ => .inl rfl
    unary := fun _ _ _ => .inl rfl
    exp := fun _ _ _ => .inl rfl
    multL := fun _ _ _ => .inl rfl
    mult := fun _ _ _ => .inl rfl
    addL := fun _ _ _ => .inl rfl
    add := fun _ _ _ => .inl rfl }
  | n + 1 => rh_succ (rh_all n)

theorem eqLoop_reads : ∀ (n : Nat) {acc ts e}, EqLoop acc ts e →
    Reads (equalLoop n acc) (fun rest => contQ (headType rest) = true) ts e
  | 0, _, _, _, _, _, _ => .inl rfl
  | n + 1, _, _, _, h, rest, hr => by
    cases h with
    | done acc =>
      rw [List.nil_append, equalLoop_succ, contQ_eq hr]
      exact .rfl
    | eq q hq a a' =>
      rw [List.cons_append, List.cons_append, List.append_assoc, equalLoop_cons hq,
        if_pos (show firstAdd _ = true from (hd_AddE a).firstUnary _)]
      exact ((rh_all n).add a _ (cont_EqLoop a' hr)).bind (eqLoop_reads n a' rest hr)

theorem equalE_reads (n : Nat) {ts e} (h : EqualE ts e) :
    Reads (parseEqual n) (fun rest => contQ (headType rest) = true) ts e := by
  intro rest hr
  obtain _ | n := n
  · exact .inl rfl
  obtain ⟨a, a'⟩ := h
  rw [List.append_assoc, parseEqual_succ, show firstAdd _ = true from (hd_AddE a).firstUnary _]
  exact ((rh_all n).add a _ (cont_EqLoop a' hr)).bind (eqLoop_reads n a' rest hr)

end PC

open PC in
theorem parseToks_complete_of_derivation {body : List Tok} {e : Ex} (h : G.EqualE body e) :
    parseToks (body ++ [eofTok]) = .ok e := by
  have h1 := (equalE_reads (parseFuel (body ++ [eofTok])) h [eofTok] (by decide)).resolve_left
    (PF.parseEqual_ne_fuel _ _ (by simp [parseFuel]))
  rw [parseToks_eq, unaryStart_not_eof ((hd_EqualE h).head _), h1]
  rfl

/-- `hb` is not needed: every terminal of the grammar fixes its token type, none of them `.eof` -/
theorem parseToks_complete (body : List Tok) (e : Ex) (_hb : ∀ t ∈ body, t.type ≠ .eof)
    (h : G.EqualE body e) : parseToks (body ++ [eofTok]) = .ok e :=
  parseToks_complete_of_derivation h

theorem parse_der {k : Nat} {ts : List Tok} {e : Ex} (h : PP.Der k ts e) :
    parseToks (ts ++ [eofTok]) = .ok e :=
  parseToks_complete_of_derivation (PP.equalE_of_add h.toAdd)

end Mathy
