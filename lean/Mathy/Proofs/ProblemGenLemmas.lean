/-
The stream-driven generator model (Model/ProblemGen.lean), for every stream.  No specification of a draw
function depends on the stream, so each has one lemma `P (f … s).1`, used with `_` for `s`; where `f` can fail
the lemma says it returns `some`, of `f … s` itself or of the `G` that `generalize` puts in its place.
The model threads the stream by `let (x, s) := f … s`, a `match` on the pair: `simp only []` (here and
in Props/C17Gen.lean) replaces such a match by its body with `(f … s).1`, `(f … s).2` for `x`, `s`, and
computes it once an explicit pair stands in the place of `f … s`.
`namespace Gen` is that of Model/ProblemGen.lean, the generators; of the printed files under `Gen/` only `Gen/Tables.lean` shares it.
-/
import Mathy.Model.ProblemGen
import Mathy.Proofs.ProblemLemmas
namespace Mathy
namespace Gen

theorem draw_lt (n : Nat) (hn : 0 < n) (s : Stream) : (draw n s).1 < n := by
  cases s with
  | nil => simpa [draw] using hn
  | cons d ds =>
    have : n ≠ 0 := by omega
    simp [draw, this, Nat.mod_lt _ hn]

theorem randint_ge (a b : Nat) (s : Stream) : a ≤ (randint a b s).1 :=
  Nat.le_add_right _ _

theorem randint_le (a b : Nat) (s : Stream) (h : a ≤ b) : (randint a b s).1 ≤ b := by
  have := draw_lt (b - a + 1) (by omega) s
  simp only [randint]
  omega

theorem digits_ok : ∀ n ≤ 12, (parseNumber (natDigits n)).isSome = true := by decide +kernel

@[simp] theorem randNumber_ok (s : Stream) : (randNumber s).1.ok = true := by
  simpa [randNumber, PNum.ok] using digits_ok _ (randint_le 1 12 s (by omega))

@[simp] theorem maybeNumber_ok (pct : Rat) (s : Stream) : CoefOk (maybeNumber pct s).1 := by
  intro n hn
  unfold maybeNumber at hn
  simp only [] at hn
  split at hn
  · exact Option.some.inj hn ▸ randNumber_ok _
  · cases hn

@[simp] theorem maybePower_ok (pct : Rat) (s : Stream) : PowOk (maybePower pct s).1 := by
  intro t ht
  unfold maybePower at ht
  simp only [] at ht
  split at ht
  · rw [← Option.some.inj ht]
    exact digits_ok _ (Nat.le_trans (randint_le 2 4 _ (by omega)) (by omega))
  · cases ht

theorem noiseTerms_ok (pc : Rat) (n : Nat) (vars : List Char) (s : Stream) :
    ∀ it ∈ (noiseTerms pc n vars s).1.1, it.ok = true := by
  induction n generalizing vars s with
  | zero => simp [noiseTerms]
  | succ n ih =>
    unfold noiseTerms
    split
    · simp
    · simpa [noiseTerm] using ih _ _

/-- where the four sum generators end: a `+`-chain with two terms in one variable and power -/
theorem sumProblem_valid {l m r : List PItem} {c1 c2 : Option PNum} {v : Char} {pw : Option (List Char)}
    {g : Option (Nat × Nat)} {o : Option FlatProblem}
    (ho : sumProblem (l ++ .term c1 v pw :: (m ++ .term c2 v pw :: r)) g = o)
    (hok : ∀ it ∈ l ++ .term c1 v pw :: (m ++ .term c2 v pw :: r), it.ok = true)
    (hg : ∀ gs ge, g = some (gs, ge) →
      gs < ge ∧ ge < (l ++ PItem.term c1 v pw :: (m ++ .term c2 v pw :: r)).length) :
    ∃ p, o = some p ∧ p.ok = true ∧ p.promisesLike = true := by
  generalize hitems : l ++ PItem.term c1 v pw :: (m ++ .term c2 v pw :: r) = items at ho hok hg
  cases items with
  | nil => exact absurd hitems (by simp)
  | cons it rest =>
    subst ho
    obtain ⟨h1, h2⟩ := List.forall_mem_cons.1 hok
    refine ⟨_, rfl, (FlatProblem.ok_iff _).2 ?_, (Prob.promisesLike_iff _).2 ⟨?_, l, c1, c2, v, pw, m, r, ?_⟩⟩
    · refine ⟨h1, List.forall_mem_map.2 h2, fun gs ge hg' => ?_⟩
      obtain ⟨hlt, hle⟩ := hg gs ge hg'
      rw [List.length_cons] at hle
      exact ⟨hlt, by rw [List.length_map]; omega⟩
    · simp [List.all_map]
    · simp [FlatProblem.items, List.map_map, Function.comp_def, hitems]

theorem haystackFinish_valid {pc : Rat} {paren : Bool} {c1 c2 : Option PNum} {v : Char} {pw : Option (List Char)}
    {mid : List PItem} {numSplit : Nat} {noiseVars : List Char} {s : Stream} {o : Option (FlatProblem × Nat × Nat)}
    (ho : haystackFinish pc paren (.term c1 v pw :: (mid ++ [.term c2 v pw])) numSplit noiseVars s = o)
    (h1 : CoefOk c1) (h2 : CoefOk c2) (hpw : PowOk pw) (hmid : ∀ it ∈ mid, it.ok = true) :
    ∃ p nl nr, o = some (p, nl, nr) ∧ p.ok = true ∧ p.promisesLike = true := by
  unfold haystackFinish at ho
  simp only [List.append_assoc, List.cons_append, List.nil_append] at ho
  generalize hq : sumProblem _ _ = q at ho
  have hv := sumProblem_valid hq ?_ ?_
  · obtain ⟨p, rfl, h⟩ := hv
    exact ⟨p, _, _, ho.symm, h⟩
  · simpa [or_imp, forall_and, h1, h2, hpw] using ⟨noiseTerms_ok _ _ _ _, hmid, noiseTerms_ok _ _ _ _⟩
  · intro gs ge hg
    split at hg
    · cases hg; simp only [List.length_append, List.length_cons, List.length_nil]; omega
    · cases hg

theorem pool_nodup_length : variablesPool.Nodup ∧ variablesPool.length = 24 := by decide +kernel

theorem pool_minus_list (l : List Char) :
    24 - l.length ≤ (variablesPool.filter (fun v => !(l.contains v))).length := by
  have hcount : (variablesPool.filter (fun v => l.contains v)).length ≤ l.length :=
    List.Nodup.length_le_of_subset (pool_nodup_length.1.filter _) fun x hx => by
      simpa using (List.mem_filter.1 hx).2
  have hsplit := (List.filter_append_perm (fun v => l.contains v) variablesPool).length_eq
  rw [List.length_append, pool_nodup_length.2] at hsplit
  omega

theorem sample_length : ∀ (k : Nat) (pool : List Char) (s : Stream), k ≤ pool.length →
    (sample k pool s).1.length = k := by
  intro k
  induction k with
  | zero => intro pool s _; rfl
  | succ k ih =>
    intro pool s h
    have hj := draw_lt pool.length (by omega) s
    have hk : k ≤ (pool.eraseIdx (draw pool.length s).1).length := by
      rw [List.length_eraseIdx, if_pos hj]
      omega
    simp only [sample, List.length_cons]
    rw [ih _ _ hk]

theorem swapAt_length (l : List Char) (i j : Nat) : (swapAt l i j).length = l.length := by
  simp [swapAt]

theorem shuffleFrom_length : ∀ (i : Nat) (l : List Char) (s : Stream), (shuffleFrom i l s).1.length = l.length := by
  intro i
  induction i with
  | zero => intro l s; rfl
  | succ i ih => intro l s; simp only [shuffleFrom]; rw [ih, swapAt_length]

theorem getRandVarsS_spec {n : Nat} {exclude : List Char} {s : Stream} {G : Option (List Char) × Stream}
    (h : getRandVarsS n exclude s = G) (hn : n + exclude.length ≤ 24) :
    ∃ vs s', G = (some vs, s') ∧ vs.length = n := by
  have := pool_minus_list exclude
  unfold getRandVarsS at h
  rw [if_neg (by omega), if_neg (by omega)] at h
  exact ⟨_, _, h.symm, (shuffleFrom_length _ _ _).trans (sample_length _ _ _ (by omega))⟩

theorem getBlocker_go_ok (vs : List Char) (s : Stream) : ∀ it ∈ (getBlocker.go vs s).1, it.ok = true := by
  induction vs generalizing s with
  | nil => simp [getBlocker.go]
  | cons v vs ih => simpa [getBlocker.go] using ih _

theorem getBlocker_spec {n : Nat} {exclude : List Char} {s : Stream} {B : Option (List PItem) × Stream}
    (h : getBlocker n exclude s = B) (hn : n + exclude.length ≤ 24) :
    ∃ bs s', B = (some bs, s') ∧ ∀ it ∈ bs, it.ok = true := by
  unfold getBlocker at h
  generalize hg : getRandVarsS _ _ _ = G at h
  obtain ⟨vs, s1, rfl, -⟩ := getRandVarsS_spec hg hn
  exact ⟨_, _, h.symm, getBlocker_go_ok _ _⟩

theorem binomialVars_go_ok (powers : Bool) (pp2 : Rat) (vs : List Char) (s : Stream) :
    ∀ q ∈ (binomialVars.go powers pp2 vs s).1, PowOk q.2 := by
  induction vs generalizing s with
  | nil => simp [binomialVars.go]
  | cons v vs ih => cases powers <;> simpa [binomialVars.go] using ih _

theorem binomialVars_spec {powers likeVars : Bool} {numVars : Nat} {pp2 : Rat} {s : Stream}
    {BV : Option (List (Char × Option (List Char))) × Stream}
    (h : binomialVars powers likeVars numVars pp2 s = BV) (hn : numVars ≤ 24) :
    ∃ vars s', BV = (some vars, s') ∧ ∀ q ∈ vars, PowOk q.2 := by
  subst h
  unfold binomialVars
  cases likeVars
  · simp only [Bool.false_eq_true, if_false]
    generalize hg : getRandVarsS _ _ _ = G
    obtain ⟨vs, s1, rfl, -⟩ := getRandVarsS_spec hg (by simpa using hn)
    exact ⟨_, _, rfl, binomialVars_go_ok _ _ _ _⟩
  · -- one variable in every slot, all with the same power or all with none
    cases powers <;> simp only [if_true, Bool.false_eq_true, if_false] <;>
      exact ⟨_, _, rfl, fun q hq => by simp [(List.mem_replicate.1 hq).2]⟩

theorem binomialTerms_spec (simple : Bool) (n : Nat) (vars : List (Char × Option (List Char))) (s : Stream)
    (hv : ∀ q ∈ vars, PowOk q.2) :
    (binomialTerms simple n vars s).1.length = n ∧ ∀ it ∈ (binomialTerms simple n vars s).1, it.ok = true := by
  induction n generalizing vars s with
  | zero => simp [binomialTerms]
  | succ n ih =>
    cases vars with
    | nil => simpa [binomialTerms, PItem.ok] using ih [] _ (by simp)
    | cons q vs =>
      obtain ⟨hp, hvs⟩ := List.forall_mem_cons.1 hv
      cases simple <;> simpa [binomialTerms, hp, CoefOk] using ih vs _ hvs

theorem shuffle2_ok (a b : PItem) (s : Stream) (ha : a.ok = true) (hb : b.ok = true) :
    (shuffle2 a b s).1.1.ok = true ∧ (shuffle2 a b s).1.2.ok = true := by
  unfold shuffle2
  simp only []
  split <;> simp [ha, hb]

theorem adorn_ok (pc : Rat) (vs : List Char) (s : Stream) : ∀ t ∈ (adorn pc vs s).1, PowOk t.2 := by
  induction vs generalizing s with
  | nil => simp [adorn]
  | cons v vs ih => simpa [adorn] using ih _

theorem adorn_length (pc : Rat) (vs : List Char) (s : Stream) : (adorn pc vs s).1.length = vs.length := by
  induction vs generalizing s with
  | nil => rfl
  | cons v vs ih => simp [adorn, ih]

theorem noiseTemplates_ok (pc : Rat) (n : Nat) (vars : List Char) (s : Stream) :
    ∀ t ∈ (noiseTemplates pc n vars s).1.1, PowOk t.2 := by
  induction n generalizing vars s with
  | zero => simp [noiseTemplates]
  | succ n ih =>
    unfold noiseTemplates
    split
    · simp
    · simpa using ih _ _

theorem swapAtG_length {α : Type} (l : List α) (i j : Nat) : (swapAtG l i j).length = l.length := by
  unfold swapAtG
  split <;> simp

theorem swapAtG_mem {α : Type} (l : List α) (i j : Nat) (x : α) (h : x ∈ swapAtG l i j) : x ∈ l := by
  unfold swapAtG at h
  split at h
  · next a b ha hb =>
    rcases List.mem_or_eq_of_mem_set h with h1 | rfl
    · rcases List.mem_or_eq_of_mem_set h1 with h2 | rfl
      · exact h2
      · exact List.mem_of_getElem? hb
    · exact List.mem_of_getElem? ha
  · exact h

theorem shuffleFromG_spec {α : Type} : ∀ (i : Nat) (l : List α) (s : Stream),
    (shuffleFromG i l s).1.length = l.length ∧ ∀ x ∈ (shuffleFromG i l s).1, x ∈ l := by
  intro i
  induction i with
  | zero => intro l s; exact ⟨rfl, fun x h => h⟩
  | succ i ih =>
    intro l s
    simp only [shuffleFromG]
    obtain ⟨h1, h2⟩ := ih (swapAtG l (i + 1) (draw (i + 2) s).1) (draw (i + 2) s).2
    exact ⟨by rw [h1, swapAtG_length], fun x hx => swapAtG_mem _ _ _ _ (h2 x hx)⟩

theorem simplifyTail_spec (spec : OpSpec) (optionalVar : Bool) (ovp : Rat) (ts : List Template) (s : Stream)
    (ht : ∀ t ∈ ts, PowOk t.2) :
    (simplifyTail spec optionalVar ovp ts s).1.length = ts.length ∧
    ∀ q ∈ (simplifyTail spec optionalVar ovp ts s).1, q.2.ok = true := by
  induction ts generalizing s with
  | nil => simp [simplifyTail]
  | cons t ts ih =>
    obtain ⟨hp, hts⟩ := List.forall_mem_cons.1 ht
    unfold simplifyTail
    simp only []
    generalize (if optionalVar = true then randBool ovp s else (true, s)) = K
    refine ⟨by simpa using (ih _ hts).1, List.forall_mem_cons.2 ⟨?_, (ih _ hts).2⟩⟩
    dsimp only
    split
    · simp [hp]
    · exact randNumber_ok _

theorem simplifyTemplates_spec (numTerms numLike : Nat) (useNoise : Bool) (pp svp : Rat) (likeVars : List Char)
    (s : Stream) (hl : likeVars.length = numLike) (hn : 1 ≤ numLike) :
    numTerms ≤ (simplifyTemplates numTerms numLike useNoise pp svp likeVars s).1.length ∧
    ∀ t ∈ (simplifyTemplates numTerms numLike useNoise pp svp likeVars s).1, PowOk t.2 := by
  unfold simplifyTemplates
  simp only []
  generalize hSP : (if _ = true then maybePower 100 _ else _) = SP
  have hsp : PowOk SP.1 := by subst hSP; split <;> simp
  generalize hT : (if _ = true then _ else adorn pp likeVars _) = T
  obtain ⟨hlen, hok⟩ : 1 ≤ T.1.length ∧ ∀ t ∈ T.1, PowOk t.2 := by
    subst hT
    split
    · exact ⟨by simp, by simpa [hsp] using adorn_ok _ _ _⟩
    · exact ⟨by rw [adorn_length]; omega, adorn_ok _ _ _⟩
  constructor
  · have : numTerms ≤ numTerms * T.1.length := Nat.le_mul_of_pos_right _ (by omega)
    have hsum : (List.map List.length (List.replicate numTerms T.1)).sum = numTerms * T.1.length := by simp
    rw [List.length_append, List.length_take, List.length_flatten, hsum]
    omega
  · intro t ht
    rcases List.mem_append.1 ht with ht | ht
    · obtain ⟨l, hl', htl⟩ := List.mem_flatten.1 (List.mem_of_mem_take ht)
      exact hok t ((List.mem_replicate.1 hl').2 ▸ htl)
    · split at ht
      · rw [List.mem_singleton.1 ht]; exact hsp
      · cases ht

theorem noiseAround_spec (numTerms nn : Nat) (pp : Rat)
    (likeVars : List Char) (templates : List Template) (s : Stream)
    (hlen : numTerms ≤ templates.length) (hok : ∀ t ∈ templates, PowOk t.2)
    (hnn : nn + likeVars.length ≤ 24) :
    ∃ ts cx s', noiseAround numTerms nn pp likeVars templates s = some ((ts, cx), s') ∧
      numTerms ≤ ts.length ∧ (∀ t ∈ ts, PowOk t.2) ∧ numTerms ≤ cx := by
  unfold noiseAround
  generalize hg : getRandVarsS _ _ _ = G
  obtain ⟨vs, s1, rfl, -⟩ := getRandVarsS_spec hg hnn
  refine ⟨_, _, _, rfl, ?_, ?_, by omega⟩
  · simp only [List.length_append]; omega
  · simp only [List.forall_mem_append, List.mem_reverse]
    exact ⟨⟨noiseTemplates_ok _ _ _ _, hok⟩, noiseTemplates_ok _ _ _ _⟩

theorem noiseCount_le (numTerms : Nat) (noiseArg : Option Nat) :
    noiseCount numTerms noiseArg ≤ (match noiseArg with | some n => n | none => 5) := by
  cases noiseArg with
  | none => simp only [noiseCount]; omega
  | some n => exact Nat.le_refl _

theorem simplifyNoise_spec (useNoise : Bool) (numTerms : Nat) (noiseArg : Option Nat) (pp : Rat)
    (likeVars : List Char) (templates : List Template) (s : Stream)
    (hlen : numTerms ≤ templates.length) (hok : ∀ t ∈ templates, PowOk t.2)
    (hn : (match noiseArg with | some n => n | none => 5) + likeVars.length ≤ 24) :
    ∃ ts cx s', simplifyNoise useNoise numTerms noiseArg pp likeVars templates s = some ((ts, cx), s') ∧
      numTerms ≤ ts.length ∧ (∀ t ∈ ts, PowOk t.2) ∧ numTerms ≤ cx := by
  unfold simplifyNoise
  cases useNoise with
  | false => exact ⟨templates, numTerms, s, by simp, hlen, hok, Nat.le_refl _⟩
  | true =>
    have := noiseCount_le numTerms noiseArg
    exact noiseAround_spec numTerms _ pp likeVars templates s hlen hok (by omega)

theorem simplifyFinish_spec (useGroup : Bool) (sp : Rat) (spec : OpSpec) (optionalVar : Bool) (ovp : Rat)
    (templates : List Template) (cx : Nat) (s : Stream)
    (hlen : 2 ≤ templates.length) (hok : ∀ t ∈ templates, PowOk t.2) :
    ∃ p, simplifyFinish useGroup sp spec optionalVar ovp templates cx s = some (p, cx) ∧ p.ok = true := by
  unfold simplifyFinish
  simp only []
  generalize hT : (if _ = true then shuffleG templates _ else _) = T2
  obtain ⟨ts, s2⟩ := T2
  obtain ⟨hl2, hm2⟩ : ts.length = templates.length ∧ ∀ t ∈ ts, t ∈ templates := by
    obtain rfl := congrArg Prod.fst hT
    split
    · exact shuffleFromG_spec _ _ _
    · exact ⟨rfl, fun _ h => h⟩
  simp only []
  generalize hG : (if useGroup = true then _ else _) = GR
  obtain ⟨group, s3⟩ := GR
  have hg : ∀ gs ge, group = some (gs, ge) → gs < ge ∧ ge + 1 ≤ ts.length := by
    rintro gs ge rfl
    split at hG
    · cases hG
      have h1 := randint_le 0 (max (ts.length / 2) 1 - 1) s2 (by omega)
      have h2 := randint_ge (max (ts.length / 2) 1) (ts.length - 1) (randint 0 (max (ts.length / 2) 1 - 1) s2).2
      have h3 := randint_le (max (ts.length / 2) 1) (ts.length - 1) (randint 0 (max (ts.length / 2) 1 - 1) s2).2
        (by omega)
      omega
    · cases hG
  match ts, hl2, hm2, hg with
  | [], hl2, _, _ => exact absurd hl2 (by simp only [List.length_nil]; omega)
  | (v, pw) :: rest, hl2, hm2, hg =>
    simp only []
    obtain ⟨htl, htok⟩ := simplifyTail_spec spec optionalVar ovp rest (maybeNumber 80 s3).2
      (fun t h => hok t (hm2 t (List.mem_cons_of_mem _ h)))
    refine ⟨_, rfl, (FlatProblem.ok_iff _).2 ⟨?_, htok, fun gs ge hg' => ?_⟩⟩
    · exact (term_ok_iff _ _ _).2 ⟨maybeNumber_ok _ _, hok _ (hm2 _ List.mem_cons_self)⟩
    · obtain ⟨hlt, hle⟩ := hg gs ge hg'
      rw [List.length_cons] at hle
      exact ⟨hlt, by rw [htl]; omega⟩

end Gen
end Mathy
