/-
The pieces of the translated `get_terms` / `has_like_terms` (`Gen/PySrcLike.lean`) in the model's terms: the
in-order walk is `sumChildren`, the seen-set scan `hasDup`, the marker loop `2 ≤ countFreeConsts`.
-/
import Mathy.Gen.PySrcLike
namespace Mathy.SrcAgree
open Mathy.Gen

theorem hasLike_scan_spec (seen : List TermKey) (ts : List (Option TermKey)) :
    (Src.has_like_terms_loop1 seen ts).isNone =
      (seen.any (fun k => (ts.filterMap id).contains k) || hasDup (ts.filterMap id)) := by
  induction ts generalizing seen with
  | nil => simp [Src.has_like_terms_loop1, hasDup]
  | cons t ts ih =>
    cases t with
    | none => simpa [Src.has_like_terms_loop1] using ih seen
    | some k =>
      rw [List.filterMap_cons_some (f := id) rfl, Bool.eq_iff_iff]
      generalize ts.filterMap id = ks at ih ⊢
      simp only [Src.has_like_terms_loop1, hasDup, Bool.or_eq_true, List.any_eq_true, List.contains_iff_mem,
        List.mem_cons]
      split
      · next hk => exact iff_of_true rfl (.inl ⟨k, hk, .inl rfl⟩)
      · next hk =>
        -- a new `k` joins `seen`: it meets `ks` iff `k` is a duplicate, and since no member of the
        -- old `seen` is `k`, the old `seen` meets `k :: ks` iff it meets `ks`
        have hjoin : (∃ x, (x = k ∨ x ∈ seen) ∧ x ∈ ks) ↔ k ∈ ks ∨ ∃ x ∈ seen, x ∈ ks := by
          simp only [or_and_right, exists_or, exists_eq_left]
        have hold : (∃ x ∈ seen, x = k ∨ x ∈ ks) ↔ ∃ x ∈ seen, x ∈ ks :=
          exists_congr fun x => and_congr_right fun hx => or_iff_right fun h => hk (h ▸ hx)
        simp only [ih, Bool.or_eq_true, List.any_eq_true, List.contains_iff_mem, List.mem_cons]
        rw [hjoin, hold, or_assoc, or_left_comm]

theorem hasLike_marker_spec (marker : Bool) (fs : List Bool) :
    Src.has_like_terms_loop2 marker fs = decide (2 ≤ fs.count true + (if marker then 1 else 0)) := by
  induction fs generalizing marker with
  | nil => cases marker <;> simp [Src.has_like_terms_loop2]
  | cons f fs ih =>
    cases f <;> cases marker <;> simp [Src.has_like_terms_loop2, ih]

theorem flags_count (p : Bool) (e : Ex) :
    (Src.const_parent_flags p e).count true = countFreeConsts e + (if e.isConst && p then 1 else 0) := by
  induction e generalizing p with
  | const => cases p <;> simp [Src.const_parent_flags, countFreeConsts, Ex.isConst]
  | var => simp [Src.const_parent_flags, countFreeConsts, Ex.isConst]
  | un t o c ih => simp [Src.const_parent_flags, countFreeConsts, Ex.isConst, ih]
  | bin t o l r ihl ihr =>
    have hb : (Ex.bin t o l r).isConst = false := rfl
    simp only [Src.const_parent_flags, countFreeConsts, List.count_append, ihl, ihr, hb]
    cases o.isAddSub' with
    | false => simp
    | true =>
      -- the flags of the two operands are the constants counted at this node
      simp only [Bool.and_true, Bool.false_and, Bool.false_eq_true, if_false, if_true, Nat.add_zero]
      omega

theorem get_terms_visit_eq (e : Ex) : Src.get_terms_visit e = sumChildren e := by
  induction e with
  | const | var => simp [Src.get_terms_visit, Src.get_terms_visit_fn, sumChildren]
  | un t o c ih => simp [Src.get_terms_visit, Src.get_terms_visit_fn, sumChildren, ih]
  | bin t o l r ihl ihr =>
    simp only [Src.get_terms_visit, Src.get_terms_visit_fn, sumChildren, ihl, ihr]
    cases o.isAddSub' <;> cases l.isAddSub <;> cases r.isAddSub <;> simp

end Mathy.SrcAgree
