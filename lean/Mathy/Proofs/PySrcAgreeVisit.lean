/-
The model's traversals ARE the repository's (translated source, template-checked): `Gen/PySrcVisit.lean`.
-/
import Mathy.Gen.PySrcVisit
namespace Mathy.SrcAgree
open Mathy Mathy.BT Mathy.Gen.Src

theorem visit_preorder_agree (stop : Nat → Nat → Bool) (d : Nat) (t : BT) :
    BinaryTreeNode_visit_preorder stop d t = t.visitPre stop d := by
  induction t generalizing d with
  | nil => rfl
  | node i l r ihl ihr =>
    rw [BinaryTreeNode_visit_preorder, visitPre, ihl, ihr]
    rcases l.visitPre stop (d + 1) with ⟨tl, sl⟩
    -- the source ends with `if rr.2 then (_, true) else (_, false)` where the model has `(_, sr)`
    rcases r.visitPre stop (d + 1) with ⟨tr, _ | _⟩ <;> rfl

theorem visit_inorder_agree (stop : Nat → Nat → Bool) (d : Nat) (t : BT) :
    BinaryTreeNode_visit_inorder stop d t = t.visitIn stop d := by
  induction t generalizing d with
  | nil => rfl
  | node i l r ihl ihr =>
    rw [BinaryTreeNode_visit_inorder, visitIn, ihl, ihr]
    rcases l.visitIn stop (d + 1) with ⟨tl, sl⟩
    rcases r.visitIn stop (d + 1) with ⟨tr, _ | _⟩ <;> rfl

theorem visit_postorder_agree (stop : Nat → Nat → Bool) (d : Nat) (t : BT) :
    BinaryTreeNode_visit_postorder stop d t = t.visitPost stop d := by
  induction t generalizing d with
  | nil => rfl
  | node i l r ihl ihr => rw [BinaryTreeNode_visit_postorder, visitPost, ihl, ihr]

end Mathy.SrcAgree
