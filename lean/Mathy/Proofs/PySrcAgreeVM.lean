import Mathy.Proofs.PySrcAgree
namespace Mathy.SrcAgree
open Mathy.Py Mathy.Gen.Src

/-- the strings `VariableMultiplyRule.get_type` returns -/
def VMType.pyName : VMType → String
  | .simple => "simple" | .chained => "chained" | .chainedLeftRight => "chained_left_right"

/-- The model computes the `chained_left_right` candidate first (`clr` in `vmStep`) and the rest only
when there is none; the Python tests the three conditions of that candidate one inside the other
and repeats the rest of the function in each `else` (`ite_ite_same` folds that back).  So: split on `clr`. -/
theorem vm_type_agree (k : Ctx) (n : Ex) :
    (VariableMultiplyRule_get_type (some ⟨k, n⟩)).map (·.1) = (vmType n).map VMType.pyName := by
  cases n with
  | bin t o l r =>
    cases o with
    | mul =>
      simp only [VariableMultiplyRule_get_type, vmType, vmStep, ite_ite_same, pyrt]
      symm
      split
      next x hx =>
        -- `clr` is `some x`: its pattern on `l` and `r`, its two terms, its test on their variables
        split at hx
        next _ keep lr _ _ _ =>
          split at hx
          next clt rt hclt hrt =>
            split at hx
            next hv =>
              cases hx
              simp only [hclt, hrt, termVar, hv, pyrt]
              rfl
            next => cases hx
          next => cases hx
        next => cases hx
      next hclr =>
        rw [if_neg]
        case hnc =>
          -- the three conditions together say that `clr` is not `none`
          intro h
          simp only [Bool.and_eq_true] at h
          obtain ⟨⟨hl, hr⟩, hb, hv⟩ := h
          obtain ⟨lt, ll, lr, rfl⟩ := Ex.isOp_inv hl
          obtain ⟨rt, rl, rr, rfl⟩ := Ex.isOp_inv hr
          simp only [pyrt] at hb hv
          obtain ⟨clt, hclt⟩ := Option.isSome_iff_exists.mp hb.1
          obtain ⟨rt', hrt⟩ := Option.isSome_iff_exists.mp hb.2
          simp only [hclt, hrt, termVar, pyrt] at hclr hv
          rw [if_pos hv] at hclr
          cases hclr
        -- what is left needs a left term with a variable `v1`
        rcases hl : getTermEx false l with _ | ⟨c1, _ | v1, e1⟩
        · rfl
        · rfl
        · rcases hr : getTermEx false r with _ | ⟨c2, _ | v2, e2⟩
          · cases r with
            | bin rt ro rl rr =>
              cases ro with
              | mul =>
                simp only [pyrt, termVar]
                rcases getTermEx false rl with _ | ⟨c2, _ | v2, e2⟩
                · rfl
                · rfl
                · -- both sides end in the test `v1 != v2`
                  simp only [pyrt]
                  split <;> rfl
              | _ => rfl
            | _ => rfl
          · rfl
          · simp only [termVar, pyrt]
            split <;> rfl
    | _ => rfl
  | _ => rfl

theorem vm_can_agree (k : Ctx) (n : Ex) : VariableMultiplyRule_can_apply_to (some ⟨k, n⟩) = vmCan n := by
  have h := congrArg Option.isSome (vm_type_agree k n)
  simp only [vmType, Option.isSome_map] at h
  cases n with
  | bin t o l r =>
    cases o with
    | mul =>
      simp only [VariableMultiplyRule_can_apply_to, vmCan, pyrt, ← h]
      cases VariableMultiplyRule_get_type (some ⟨k, .bin t .mul l r⟩) <;> rfl
    | _ => rfl
  | _ => rfl

end Mathy.SrcAgree
