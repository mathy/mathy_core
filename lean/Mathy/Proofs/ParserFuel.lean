/-
The fuel `parseFuel ts = 8 * ts.length + 16` is enough for EVERY token list, accepted or not:
the parser model never answers `PErr.fuel`.  The measure argument is in `ParserFuelAux.lean`; it needs
`8 * ts.length + 8` (`PF.parseEqual_ne_fuel`), the other 8 are slack.
-/
import Mathy.Proofs.ParserFuelAux
namespace Mathy

theorem parseToks_ne_fuel (ts : List Tok) : parseToks ts ≠ .error .fuel := by
  rw [parseToks_eq]
  split
  · simp
  · refine bind_ne_fuel (PF.parseEqual_ne_fuel _ _ (by unfold parseFuel; omega)) fun p _ => ?_
    split <;> simp

end Mathy
