/-
`DistributiveFactorOutRule.get_type` / `can_apply_to` (translated from the live source) agree with
the model's `dfStep` / `dfType` / `dfCan`.  The `get_term_ex` they call is the translated one;
`get_term_ex_agree` (in `pyrt`) rewrites it into the model's `getTermEx`.  `factor_add_terms_ex` is
not translated: it enters as the model's `factorAddTermsEx` (`pyFactorAddTermsEx` in `Model/PyRt.lean`).
-/
import Mathy.Proofs.PySrcAgree
namespace Mathy.SrcAgree
open Mathy.Py Mathy.Gen.Src

/-- the strings `DistributiveFactorOutRule.get_type` returns -/
def DFType.pyName : DFType → String
  | .simple => "simple" | .chainedBoth => "chained_both" | .chainedLeft => "chained_left"
  | .chainedLeftRight => "chained_left_right" | .chainedRightLeft => "chained_right_left"
  | .chainedRight => "chained_right"

theorem termWithVar_eq (e : Ex) :
    termWithVar e = (getTermEx false e).bind fun t => if t.var.isNone then none else some t := by
  unfold termWithVar; cases getTermEx false e <;> rfl

/-- The proof follows the Python: which operands are terms (`hl`, `hr`), then, where the code asks
`isinstance(…, AddExpression)` of an operand, whether it is a sum.  On a sum both sides go one level
down; otherwise the Python has returned `None` and the model's `match` on the operand falls through. -/
theorem df_step_agree (k : Ctx) (n : Ex) :
    DistributiveFactorOutRule_get_type (some ⟨k, n⟩)
      = (dfStep n).map (fun (ty, (_, lt), (_, rt), _) => (DFType.pyName ty, some lt, some rt)) := by
  cases n with
  | bin t o l r =>
    cases o with
    | add =>
      simp only [DistributiveFactorOutRule_get_type, dfStep, pyrt]
      cases hl : getTermEx false l <;> cases hr : getTermEx false r <;> simp only [pyrt]
      · -- the model matches `l` and `r` at once: the operands stay abstract and `split` takes that match apart
        rcases isOp_cases .add r with ⟨rt, rl, rr, rfl⟩ | hr'
        · rcases isOp_cases .add l with ⟨lt, ll, lr, rfl⟩ | hl'
          · simp only [pyrt, termWithVar_eq]
            rcases getTermEx false rl with _ | ⟨c1, _ | v1, e1⟩ <;>
              rcases getTermEx false lr with _ | ⟨c2, _ | v2, e2⟩ <;> rfl
          · simp only [hl', pyrt]
            split
            · cases hl'
            · rfl
        · simp only [hr', pyrt]
          split
          · cases hr'
          · rfl
      · cases l with
        | bin lt lo ll lr =>
          cases lo with
          | add =>
            simp only [pyrt]
            rcases hlr : getTermEx false lr with _ | ⟨c2, v2, e2⟩
            · cases lr with
              | bin lrt lro lrl lrr =>
                cases lro with
                | add =>
                  simp only [pyrt, termWithVar_eq]
                  rcases getTermEx false lrr with _ | ⟨c1, _ | v1, e1⟩ <;> rfl
                | _ => rfl
              | _ => rfl
            · cases v2 <;> rfl
          | _ => rfl
        | _ => rfl
      · cases r with
        | bin rt ro rl rr =>
          cases ro with
          | add =>
            simp only [pyrt]
            rcases hrl : getTermEx false rl with _ | ⟨c2, v2, e2⟩
            · cases rl with
              | bin rlt rlo rll rlr =>
                cases rlo with
                | add =>
                  simp only [pyrt, termWithVar_eq]
                  rcases getTermEx false rll with _ | ⟨c1, _ | v1, e1⟩ <;> rfl
                | _ => rfl
              | _ => rfl
            · cases v2 <;> rfl
          | _ => rfl
        | _ => rfl
      · rfl
    | _ => rfl
  | _ => rfl

theorem df_type_agree (k : Ctx) (n : Ex) :
    (DistributiveFactorOutRule_get_type (some ⟨k, n⟩)).map (·.1) = (dfType n).map DFType.pyName := by
  rw [df_step_agree, dfType]
  cases dfStep n <;> rfl

/-- what `can_apply_to` adds to `get_type`: left, the tail of the translated function; right, `dfFactorOk` unfolded -/
theorem df_ok_aux (constants : Bool) (v1 v2 : Option Char) (f : Option FactorResult) :
    (if (constants == false && v1.isNone && v2.isNone) = true then false
      else
        if (!f.isSome) = true then false
        else if (numEq (frBest f) 1 && !(frVar f).isSome && !numTruthy (frExp f)) = true then false else true) =
      (if (decide (constants = false) && v1.isNone && v2.isNone) = true then false
      else
        match f with
        | none => false
        | some f => !(f.best == 1 && f.comVar.isNone && (f.comExp.isNone || f.comExp == some 0))) := by
  cases f with
  | none => simp only [pyrt]
  | some f =>
    simp only [Bool.beq_eq_decide_eq constants, pyrt]
    cases f.best == 1 && f.comVar.isNone && (f.comExp.isNone || f.comExp == some 0) <;> rfl

theorem df_can_agree (constants : Bool) (k : Ctx) (n : Ex) :
    DistributiveFactorOutRule_can_apply_to constants (some ⟨k, n⟩) = dfCan constants n := by
  unfold DistributiveFactorOutRule_can_apply_to dfCan
  rw [df_step_agree]
  rcases dfStep n with _ | ⟨ty, ⟨ln, lt⟩, ⟨rn, rt⟩, wrap⟩
  · rfl
  · simp only [Option.map_some, Option.isNone_some, Bool.false_eq_true, if_false, tupLeft, tupRight, termVar,
      Option.bind_some, pyFactorAddTermsEx, dfFactorOk]
    -- a lemma of its own: `cases` on the factor result fails here (stale `Decidable` instances, as in `bm_inner`)
    exact df_ok_aux constants lt.var rt.var (factorAddTermsEx lt rt)

end Mathy.SrcAgree
