/-
Soundness of the parser model with respect to the grammar of `Spec/Grammar.lean`: what a parser
function took off the input is a derivation of the tree it returned (`Consumes`).  By induction
on the fuel for the nine mutually recursive functions at once (`IH`): the step equation at fuel
`n + 1` is inverted (`bind_eq_ok`, `eat_eq_ok`) and the parts are derivations by `IH n`.
`parse_equal` and its loop call nothing but `parse_add` and come after the induction.
-/
import Mathy.Proofs.GrammarLemmas
import Mathy.Proofs.ParserStep
namespace Mathy
namespace PS

def NoEof (ts : List Tok) : Prop := ∀ t ∈ ts, t.type ≠ .eof

@[simp] theorem noEof_nil : NoEof [] := by simp [NoEof]
@[simp] theorem noEof_cons (t : Tok) (ts : List Tok) :
    NoEof (t :: ts) ↔ t.type ≠ .eof ∧ NoEof ts := by simp [NoEof]
@[simp] theorem noEof_append (a b : List Tok) : NoEof (a ++ b) ↔ NoEof a ∧ NoEof b := by
  simp only [NoEof, List.mem_append, or_imp, forall_and]

/-- `NoEof ts` is what makes the split of `body ++ [eofTok]` unique in the end (`body_eq_of_split`) -/
def Consumes (inp rest : List Tok) (P : List Tok → Prop) : Prop :=
  ∃ ts, inp = ts ++ rest ∧ NoEof ts ∧ P ts

section consumes
variable {inp mid rest : List Tok} {P Q R : List Tok → Prop}

theorem Consumes.nil (h : P []) : Consumes rest rest P := ⟨[], rfl, noEof_nil, h⟩

theorem Consumes.cons {t : Tok} (ht : t.type ≠ .eof) (h : Consumes inp rest fun a => R (t :: a)) :
    Consumes (t :: inp) rest R := by
  obtain ⟨a, rfl, ha, hr⟩ := h
  exact ⟨t :: a, rfl, (noEof_cons t a).2 ⟨ht, ha⟩, hr⟩

theorem Consumes.append (h : Consumes inp mid P) (h' : Consumes mid rest Q)
    (hR : ∀ a b, P a → Q b → R (a ++ b)) : Consumes inp rest R := by
  obtain ⟨a, rfl, ha, hp⟩ := h
  obtain ⟨b, rfl, hb, hq⟩ := h'
  exact ⟨a ++ b, (List.append_assoc a b rest).symm, (noEof_append a b).2 ⟨ha, hb⟩, hR a b hp hq⟩

end consumes

theorem primSeq_ne_nil {ts : List Tok} {es : List Ex} (h : G.PrimSeq ts es) : es ≠ [] := by
  cases h <;> simp

/-- Two pairs also say where they stopped, because the grammar asks it of their caller.
`mult`/`multL`: no `*` or `/` follows, since the right operand of a `*` is a whole `MultE` that ends
the loop (`G.MultLoop.mul`).  `unary`/`factors`: a caret follows only a literal or `!`, the side
condition of `G.ExpE.pow` (elsewhere `parse_factors` would have taken the caret itself). -/
structure IH (n : Nat) : Prop where
  add : ∀ inp e rest, parseAdd n inp = .ok (e, rest) →
    Consumes inp rest (fun ts => G.AddE ts e)
  addL : ∀ acc inp e rest, addLoop n acc inp = .ok (e, rest) →
    Consumes inp rest (fun ts => G.AddLoop acc ts e)
  mult : ∀ inp e rest, parseMult n inp = .ok (e, rest) →
    Consumes inp rest (fun ts => G.MultE ts e ∧ isMultTok (headType rest) = false)
  multL : ∀ acc inp e rest, multLoop n acc inp = .ok (e, rest) →
    Consumes inp rest (fun ts => G.MultLoop acc ts e ∧ isMultTok (headType rest) = false)
  exp : ∀ inp e rest, parseExponent n inp = .ok (e, rest) →
    Consumes inp rest (fun ts => G.ExpE ts e)
  unary : ∀ inp e rest, parseUnary n inp = .ok (e, rest) →
    Consumes inp rest (fun ts => G.UnaryE ts e ∧
      (headType rest = .exponent → G.endsClosed ts = true))
  fl : ∀ acc inp rev rest, factorsLoop n acc inp = .ok (rev, rest) →
    Consumes inp rest (fun ts => ∃ es, G.PrimSeq ts es ∧ rev = es.reverse ++ acc)
  factors : ∀ inp e rest, parseFactors n inp = .ok (e, rest) →
    Consumes inp rest (fun ts => G.Factors ts e ∧
      (headType rest = .exponent → G.endsClosed ts = true))
  fn : ∀ inp e rest, headType inp = .function → parseFunction n inp = .ok (e, rest) →
    Consumes inp rest (fun ts => G.Prim ts e)

open PC (endsClosed_singleton endsClosed_append_of endsClosed_cons_of)

section pieces
variable {n : Nat} (ih : IH n)
include ih

theorem powTail_ok {b : Ex} {mid : List Tok} {e : Ex} {rest : List Tok}
    (h : powTail n b mid = .ok (e, rest)) :
    (isExpTok (headType mid) = false ∧ e = b ∧ rest = mid) ∨
    ∃ x us u, mid = x :: us ++ rest ∧ x.type = .exponent ∧ NoEof us ∧ G.UnaryE us u ∧
      (headType rest = .exponent → G.endsClosed us = true) ∧ e = .bin 0 .pow b u := by
  rcases headType_cases isExpTok rfl mid with hx | ⟨x, us, rfl, hx, -⟩
  · rw [powTail_none hx] at h
    cases h
    exact .inl ⟨hx, rfl, rfl⟩
  · have hx := beq_iff_eq.1 hx
    simp only [powTail_cons hx, ite_then_error_eq_ok, bind_eq_ok] at h
    obtain ⟨-, ⟨u, r⟩, h2, h⟩ := h
    obtain ⟨us, rfl, hn, hu, hc⟩ := ih.unary _ _ _ h2
    cases h
    exact .inr ⟨x, us, u, rfl, hx, hn, hu, hc, rfl⟩

theorem factorsNext_sound {acc : List Ex} {f : Ex} {inp mid : List Tok} {rev : List Ex}
    {rest : List Tok} (hp : Consumes inp mid (fun ts => G.Prim ts f))
    (h : factorsNext n acc f mid = .ok (rev, rest)) :
    Consumes inp rest (fun ts => ∃ es, G.PrimSeq ts es ∧ rev = es.reverse ++ acc) := by
  cases hff : firstFactor (headType mid) with
  | true =>
    rw [factorsNext_more hff] at h
    exact hp.append (ih.fl _ _ _ _ h) fun _ _ hp ⟨es, hps, hrev⟩ =>
      ⟨f :: es, .cons hp hps, by simp [hrev]⟩
  | false =>
    rw [factorsNext_stop hff] at h
    cases h
    obtain ⟨ts, rfl, hn, hp⟩ := hp
    exact ⟨ts, rfl, hn, [f], .one hp, rfl⟩

theorem litTail_ok {ce : Ex} {tl : List Tok} {e : Ex} {rest : List Tok}
    (h : litTail n ce tl = .ok (e, rest)) :
    (tl = rest ∧ e = ce) ∨
    (∃ b, tl = b :: rest ∧ b.type = .factorial ∧ e = .un 0 .fact ce) ∨
    (∃ fs f, tl = fs ++ rest ∧ NoEof fs ∧ G.Factors fs f ∧
      (headType rest = .exponent → G.endsClosed fs = true) ∧ e = .bin 0 .mul ce f) := by
  cases hf : firstFactor (headType tl) with
  | false =>
    rw [litTail_none hf] at h
    cases h
    exact .inl ⟨rfl, rfl⟩
  | true =>
    rcases headType_cases (· == .factorial) rfl tl with hb | ⟨b, tl', rfl, hb, -⟩
    · obtain ⟨⟨f, ts⟩, hp, h2⟩ := bind_eq_ok.1 (litTail_factors hf hb ▸ h)
      obtain ⟨fs, rfl, hn, hp, hc⟩ := ih.factors _ _ _ hp
      cases h2
      exact .inr (.inr ⟨fs, f, rfl, hn, hp, hc, rfl⟩)
    · have hb := beq_iff_eq.1 hb
      rw [litTail_fact hb] at h
      cases h
      exact .inr (.inl ⟨b, rfl, hb, rfl⟩)

/-- with `neg` the caller has eaten a minus `m` before `unaryBody` starts: the derivation is of `m :: us` -/
theorem unaryBody_sound (neg : Bool) {ts : List Tok} {e : Ex} {rest : List Tok}
    (h : unaryBody n neg ts = .ok (e, rest)) :
    Consumes ts rest fun us => (headType rest = .exponent → G.endsClosed us = true) ∧
      (neg = false → G.UnaryE us e) ∧
      ∀ m : Tok, neg = true → m.type = .minus → G.UnaryE (m :: us) e := by
  unfold unaryBody at h
  split at h
  · cases hq : parseNumber (ts.headD eofTok).value with
    | none => rw [hq] at h; cases h
    | some q =>
      simp only [hq, bind_eq_ok, eat_eq_ok] at h
      obtain ⟨tl, ⟨c, rfl, hc, -⟩, h⟩ := h
      have hlit : G.Lit c q := ⟨hc, hq⟩
      rcases litTail_ok ih h with ⟨rfl, rfl⟩ | ⟨b, rfl, hb, rfl⟩ | ⟨fs, f, rfl, hn, hp, hc', rfl⟩
      · refine ⟨[c], rfl, by simp [hc], fun _ => by rw [endsClosed_singleton, hc]; rfl, ?_, ?_⟩
        · rintro rfl; exact .lit _ q hlit
        · rintro m rfl hm; exact .negLit m _ q hm hlit
      · refine ⟨[c, b], rfl, by simp [hc, hb],
          fun _ => endsClosed_cons_of c (by rw [endsClosed_singleton, hb]; rfl), ?_, ?_⟩
        · rintro rfl; exact .fact _ b q hlit hb
        · rintro m rfl hm; exact .negFact m _ b q hm hlit hb
      · refine ⟨c :: fs, rfl, by simp [hc, hn], fun hh => endsClosed_cons_of _ (hc' hh), ?_, ?_⟩
        · rintro rfl; exact .litFactors _ q hlit hp
        · rintro m rfl hm; exact .negLitFactors m _ q hm hlit hp
  · simp only [ite_else_error_eq_ok, bind_eq_ok] at h
    obtain ⟨-, ⟨f, ts'⟩, hf, h⟩ := h
    obtain ⟨fs, rfl, hn, hp, hc⟩ := ih.factors _ _ _ hf
    cases h
    refine ⟨fs, rfl, hn, hc, ?_, ?_⟩
    · rintro rfl; exact .factors hp
    · rintro m rfl hm; exact .negFactors m hm hp

end pieces

theorem ih_succ {n : Nat} (ih : IH n) : IH (n + 1) where
  add inp e rest h := by
    simp only [parseAdd_succ, ite_then_error_eq_ok, bind_eq_ok] at h
    obtain ⟨-, ⟨e0, mid⟩, h1, h2⟩ := h
    exact (ih.mult _ _ _ h1).append (ih.addL _ _ _ _ h2) fun _ _ hp hp' => .mk hp.1 hp'
  addL acc inp e rest h := by
    rcases headType_cases isAddTok rfl inp with hop | ⟨t, ts, rfl, hop, hte⟩
    · rw [addLoop_succ, hop] at h
      cases h
      exact .nil (.done _)
    · simp only [addLoop_cons hop, ite_else_error_eq_ok, bind_eq_ok] at h
      obtain ⟨-, ⟨r, mid⟩, h1, h2⟩ := h
      refine .cons hte ((ih.mult _ _ _ h1).append (ih.addL _ _ _ _ h2) fun ts ts' hp hp' => ?_)
      simp only [isAddTok, Bool.or_eq_true, beq_iff_eq] at hop
      rcases hop with hop | hop <;> simp only [hop] at hp'
      · exact .plus t hop hp.1 hp'
      · exact .minus t hop hp.1 hp'
  mult inp e rest h := by
    simp only [parseMult_succ, ite_then_error_eq_ok, bind_eq_ok] at h
    obtain ⟨-, ⟨e0, mid⟩, h1, h2⟩ := h
    exact (ih.exp _ _ _ h1).append (ih.multL _ _ _ _ h2) fun _ _ hp hp' => ⟨.mk hp hp'.1, hp'.2⟩
  multL acc inp e rest h := by
    rcases headType_cases isMultTok rfl inp with hop | ⟨t, ts, rfl, hop, hte⟩
    · rw [multLoop_succ, hop] at h
      cases h
      exact .nil ⟨.done _, hop⟩
    · simp only [multLoop_cons hop, ite_else_error_eq_ok, bind_eq_ok] at h
      obtain ⟨-, ⟨r, mid⟩, h1, h2⟩ := h
      refine .cons hte ?_
      simp only [isMultTok, Bool.or_eq_true, beq_iff_eq] at hop
      rcases hop with hop | hop <;> simp only [hop] at h1 h2
      · -- `*`: the operand is a whole `MultE`; the loop, read once more at fuel `m + 1`, stops by `hm`
        obtain ⟨ts, rfl, hn, hp, hm⟩ := ih.mult _ _ _ h1
        obtain _ | m := n
        · cases h2
        rw [multLoop_succ, hm] at h2
        cases h2
        exact ⟨ts, rfl, hn, .mul t hop hp, hm⟩
      · exact (ih.exp _ _ _ h1).append (ih.multL _ _ _ _ h2) fun _ _ hp hp' =>
          ⟨.div t hop hp hp'.1, hp'.2⟩
  exp inp e rest h := by
    simp only [parseExponent_succ, ite_then_error_eq_ok, bind_eq_ok] at h
    obtain ⟨-, ⟨b, mid⟩, h1, h⟩ := h
    obtain ⟨ts, rfl, hn, hp, hc⟩ := ih.unary _ _ _ h1
    rcases powTail_ok ih h with ⟨-, rfl, rfl⟩ | ⟨x, us, u, rfl, hx, hn', hu, -, rfl⟩
    · exact ⟨ts, rfl, hn, .unary hp⟩
    · exact ⟨ts ++ x :: us, by simp, by simp [hn, hn', hx], .pow x hx hp (hc hx) hu⟩
  unary inp e rest h := by
    rcases headType_cases (· == .minus) rfl inp with hneg | ⟨m, us, rfl, hm, -⟩
    · rw [parseUnary_plain hneg] at h
      obtain ⟨us, rfl, hn, hc, hu, -⟩ := unaryBody_sound ih _ h
      exact ⟨us, rfl, hn, hu rfl, hc⟩
    · have hm := beq_iff_eq.1 hm
      rw [parseUnary_minus hm] at h
      obtain ⟨us, rfl, hn, hc, -, hu⟩ := unaryBody_sound ih _ h
      exact ⟨m :: us, rfl, by simp [hm, hn], hu m rfl hm, fun hh => endsClosed_cons_of _ (hc hh)⟩
  fl acc inp rev rest h := by
    rw [factorsLoop_succ] at h
    split at h
    · obtain ⟨ts1, heat, h2⟩ := bind_eq_ok.1 h
      obtain ⟨t, rfl, ht, -⟩ := eat_eq_ok.1 heat
      exact factorsNext_sound ih ⟨[t], rfl, by simp [ht], .var t ht⟩ h2
    split at h
    next hf =>
      obtain ⟨⟨f, mid⟩, hp, h2⟩ := bind_eq_ok.1 h
      exact factorsNext_sound ih (ih.fn _ _ _ hf hp) h2
    split at h
    · simp only [bind_eq_ok, eat_eq_ok] at h
      obtain ⟨_, ⟨o, rfl, ho, -⟩, ⟨a, m⟩, ha, hclose⟩ := h
      obtain ⟨_, ⟨c, rfl, hc, -⟩, h2⟩ := hclose
      obtain ⟨ts, rfl, hn, hp⟩ := ih.add _ _ _ ha
      exact factorsNext_sound ih
        ⟨o :: ts ++ [c], by simp, by simp [hn, ho, hc], .paren o c ho hc hp⟩ h2
    · cases h
  factors inp e rest h := by
    simp only [parseFactors_succ, bind_eq_ok] at h
    obtain ⟨⟨rev, mid⟩, hfl, h⟩ := h
    obtain ⟨ts, rfl, hn, es, hps, hrev⟩ := ih.fl _ _ _ _ hfl
    -- the loop returns the primaries last first
    obtain rfl : es = rev.reverse := List.reverse_eq_iff.1 (by rw [hrev, List.append_nil])
    rcases rev with _ | ⟨last, before⟩
    · cases h
    rw [List.reverse_cons] at hps
    obtain ⟨q, hq, h⟩ := bind_eq_ok.1 h
    split at h
    next => cases h
    next f0 fs hrv =>
      cases h
      rcases powTail_ok ih hq with ⟨hx, hq1, rfl⟩ | ⟨x, us, u, rfl, hx, hn', hu, hc, hq1⟩
      · rw [hq1] at hrv
        refine ⟨ts, rfl, hn, .plain (hrv ▸ hps), fun hh => ?_⟩
        simp [isExpTok, hh] at hx
      · rw [hq1] at hrv
        exact ⟨ts ++ x :: us, by simp, by simp [hn, hn', hx], .pow x hx hps hu hrv,
          fun hh => endsClosed_append_of _ (endsClosed_cons_of _ (hc hh))⟩
  fn inp e rest hf h := by
    simp only [parseFunction_succ, bind_eq_ok, eat_eq_ok] at h
    obtain ⟨_, ⟨f, rfl, -, -⟩, _, ⟨o, rfl, ho, -⟩, hadd⟩ := h
    obtain ⟨⟨a, m⟩, ha, _, ⟨c, rfl, hc, -⟩, h2⟩ := hadd
    obtain ⟨ts, rfl, hn, hp⟩ := ih.add _ _ _ ha
    cases h2
    exact ⟨f :: o :: ts ++ [c], by simp, by simp [hn, ho, hc, show f.type = .function from hf],
      .fn f o c hf ho hc hp⟩

theorem ih_all : ∀ n, IH n
  | 0 => by constructor <;> nofun
  | n + 1 => ih_succ (ih_all n)

theorem equalLoop_sound : ∀ (n : Nat) (acc : Ex) (inp : List Tok) (e : Ex) (rest : List Tok),
    equalLoop n acc inp = .ok (e, rest) → Consumes inp rest (fun ts => G.EqLoop acc ts e)
  | 0, _, _, _, _, h => by cases h
  | n + 1, acc, inp, e, rest, h => by
    rcases headType_cases isEqualTok rfl inp with hop | ⟨t, ts, rfl, hop, hte⟩
    · rw [equalLoop_succ, hop] at h
      cases h
      exact .nil (.done _)
    · have ht : t.type = .equal := beq_iff_eq.1 hop
      simp only [equalLoop_cons ht, ite_else_error_eq_ok, bind_eq_ok] at h
      obtain ⟨-, ⟨r, mid⟩, h1, h2⟩ := h
      exact .cons hte (((ih_all n).add _ _ _ h1).append (equalLoop_sound n _ _ _ _ h2)
        fun _ _ hp hp' => .eq t ht hp hp')

theorem parseEqual_sound (n : Nat) (inp : List Tok) (e : Ex) (rest : List Tok)
    (h : parseEqual n inp = .ok (e, rest)) : Consumes inp rest (fun ts => G.EqualE ts e) := by
  obtain _ | n := n
  · cases h
  simp only [parseEqual_succ, ite_then_error_eq_ok, bind_eq_ok] at h
  obtain ⟨-, ⟨e0, mid⟩, h1, h2⟩ := h
  exact ((ih_all n).add _ _ _ h1).append (equalLoop_sound n _ _ _ _ h2) fun _ _ hp hp' => .mk hp hp'

/-- the end marker is the first token of type `.eof` on both sides, so the split is the same -/
theorem body_eq_of_split {x : Tok} (hx : x.type = .eof) {body ts rest : List Tok}
    (hb : NoEof body) (hts : NoEof ts) (hr : headType rest = .eof)
    (h : body ++ [x] = ts ++ rest) : ts = body := by
  rcases List.append_eq_append_iff.1 h with ⟨a, rfl, ha⟩ | ⟨c, rfl, hc⟩
  · cases a with
    | nil => exact List.append_nil _
    | cons y a =>
      cases (List.cons.inj ha).1
      exact absurd hx (hts x (by simp))
  · cases c with
    | nil => exact (List.append_nil _).symm
    | cons y c =>
      subst hc
      exact absurd hr (hb y (by simp))

end PS

theorem parseToks_sound (body : List Tok) (e : Ex) (hb : ∀ t ∈ body, t.type ≠ .eof)
    (h : parseToks (body ++ [eofTok]) = .ok e) : G.EqualE body e := by
  simp only [parseToks_eq, ite_then_error_eq_ok, bind_eq_ok, ite_else_error_eq_ok] at h
  obtain ⟨-, ⟨e', rest⟩, hp, hr, h⟩ := h
  cases h
  obtain ⟨ts, hsplit, hn, hE⟩ := PS.parseEqual_sound _ _ _ _ hp
  exact PS.body_eq_of_split (x := eofTok) rfl hb hn (beq_iff_eq.1 hr) hsplit ▸ hE

end Mathy
