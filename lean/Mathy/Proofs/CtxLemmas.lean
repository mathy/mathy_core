/-
The context functions of `Model/Rules.lean`: `splitRoot` as the inverse of appending the root frame,
`allAdd`, and `findNodes` / `applyAt` in terms of a focus and `applyRule`.
-/
import Mathy.Model.Rules
import Mathy.Proofs.ExLemmas
namespace Mathy

theorem allAdd_cons {f : Frame} {k : Ctx} :
    allAdd (f :: k) = true ↔ f.isOp .add = true ∧ allAdd k = true := Bool.and_eq_true_iff

theorem splitRoot_snoc : ∀ (inner : Ctx) (rootF : Frame), splitRoot (inner ++ [rootF]) = some (inner, rootF)
  | [], _ => rfl
  | [_], _ => rfl
  | f :: g :: fs, rootF => by
    have ih := splitRoot_snoc (g :: fs) rootF
    simp only [List.cons_append] at ih ⊢
    simp only [splitRoot, ih]

theorem splitRoot_eq_some_iff {k inner : Ctx} {rootF : Frame} :
    splitRoot k = some (inner, rootF) ↔ k = inner ++ [rootF] := by
  refine ⟨fun h => ?_, fun h => h ▸ splitRoot_snoc inner rootF⟩
  induction k generalizing inner with
  | nil => cases h
  | cons f fs ih =>
    cases fs with
    | nil => cases h; rfl
    | cons g gs =>
      simp only [splitRoot] at h
      split at h
      · cases h; rw [List.cons_append, ← ih ‹_›]
      · cases h

theorem splitRoot_none {k : Ctx} (h : splitRoot k = none) : k = [] := by
  rcases List.eq_nil_or_concat k with rfl | ⟨inner, rootF, rfl⟩
  · rfl
  · rw [List.concat_eq_append, splitRoot_snoc] at h
    cases h

theorem plug_snoc (inner : Ctx) (rootF : Frame) (e : Ex) :
    plug (inner ++ [rootF]) e = rootF.fill (plug inner e) := by
  rw [plug_append]; rfl

theorem plug_splitRoot {k inner : Ctx} {rootF : Frame} (h : splitRoot k = some (inner, rootF)) (e : Ex) :
    plug k e = rootF.fill (plug inner e) := by
  rw [splitRoot_eq_some_iff.mp h, plug_snoc]

theorem mem_findNodes {r : Rule} {t : Ex} {i : Nat} :
    i ∈ findNodes r t ↔ ∃ k n, focusAt t i = some (k, n) ∧ canApply r k n = true := by
  unfold findNodes focusAt
  simp only [List.mem_map, List.mem_filter, List.mem_zipIdx_iff_getElem?]
  constructor
  · rintro ⟨⟨⟨k, n⟩, j⟩, ⟨hj, hc⟩, rfl⟩
    exact ⟨k, n, by simpa using hj, hc⟩
  · rintro ⟨k, n, hf, hc⟩
    exact ⟨((k, n), i), ⟨by simpa using hf, hc⟩, rfl⟩

theorem applyAt_step {r : Rule} {t t' : Ex} {i : Nat} (hcan : i ∈ findNodes r t)
    (happ : applyAt r t i = .ok t') :
    ∃ k n k' n', plug k n = t ∧ plug k' n' = t' ∧ canApply r k n = true ∧
      applyRule r k n = .ok (k', n') := by
  obtain ⟨k, n, hf, hc⟩ := mem_findNodes.mp hcan
  simp only [applyAt, hf] at happ
  split at happ <;> cases happ
  exact ⟨k, n, _, _, focusAt_plug hf, rfl, hc, ‹_›⟩

end Mathy
