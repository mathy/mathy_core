/-
The model's parser IS the repository's parser (translated source) — part 2: the simulation
relation and the simultaneous agreement statement.

`Sim R m g`: the translated computation `g` ends as the model's `m` does, with results related by
`R`, unless the model is out of fuel.  Its rules follow the shape of a program (`ok`, `error`,
`bind`, `ite`), so with the model read through its step equations (`Proofs/ParserStep.lean`) the
agreement proof for one method is a walk along its text.

Fuel: the translated functions consume one unit more than the model's (the `while found` loop of
`parse_factors` re-enters once to see `found == False`), so `Agree n` relates the translated
function at fuel `n + 1` to the model at fuel `n`.
-/
import Mathy.Proofs.PySrcAgreeParse
namespace Mathy.SrcAgree
open Mathy.Py Mathy.Gen.Src

variable {α β γ δ : Type}

def Sim (R : α → β → Prop) : Except PErr α → Except PyErr β → Prop
  | .ok a, g => ∃ b, g = .ok b ∧ R a b
  | .error k, g => k ≠ .fuel → g = .error (errOf k)

namespace Sim
variable {R : α → β → Prop} {S : γ → δ → Prop}

theorem ok {a : α} {b : β} (h : R a b) : Sim R (.ok a) (.ok b) := ⟨b, rfl, h⟩

theorem error (k : PErr) : Sim R (.error k) (.error (errOf k) : Except PyErr β) := fun _ => rfl

theorem of_ok {a : α} {g : Except PyErr β} (h : Sim R (.ok a) g) : ∃ b, g = .ok b ∧ R a b := h

theorem of_error {k : PErr} {g : Except PyErr β} (h : Sim R (.error k) g) (hk : k ≠ .fuel) :
    g = .error (errOf k) := h hk

theorem bind {m : Except PErr α} {g : Except PyErr β} {k : α → Except PErr γ} {k' : β → Except PyErr δ}
    (h : Sim R m g) (hk : ∀ a b, R a b → Sim S (k a) (k' b)) : Sim S (m.bind k) (g.bind k') := by
  cases m with
  | ok a => obtain ⟨b, rfl, hab⟩ := h.of_ok; exact hk a b hab
  | error e => intro he; rw [h.of_error he]; rfl

/-- the translated side only repacks its result -/
theorem map {m : Except PErr α} {g : Except PyErr β} {f : β → δ} {S : α → δ → Prop}
    (h : Sim R m g) (hf : ∀ a b, R a b → S a (f b)) : Sim S m (g.bind fun b => .ok (f b)) := by
  cases m with
  | ok a => obtain ⟨b, rfl, hab⟩ := h.of_ok; exact .ok (hf a b hab)
  | error e => intro he; rw [h.of_error he]; rfl

theorem ite {c : Prop} [Decidable c] {m m' : Except PErr α} {g g' : Except PyErr β}
    (h : c → Sim R m g) (h' : ¬c → Sim R m' g') : Sim R (if c then m else m') (if c then g else g') := by
  split
  · exact h ‹_›
  · exact h' ‹_›

end Sim

/-- the invariant on the rest list travels with the result -/
def Rel (φ : α → ParserState → β) (p : α × List Tok) (b : β) : Prop := b = φ p.1 (stOf p.2) ∧ Good p.2

/-- a translated method returns `(value, self)` -/
abbrev RP : Ex × List Tok → Ex × ParserState → Prop := Rel Prod.mk
/-- a translated `while` loop returns `(self, acc)` -/
abbrev RL : Ex × List Tok → ParserState × Ex → Prop := Rel fun e st => (st, e)
/-- the loop of `parse_factors` returns `(right, factors, self, found)`, the factors in source order -/
abbrev RF : List Ex × List Tok → Option Ex × List Ex × ParserState × Bool → Prop :=
  Rel fun rev st => (none, rev.reverse, st, false)

theorem Sim.bind_rel {φ : α → ParserState → β} {S : γ → δ → Prop} {m : Except PErr (α × List Tok)} {g : Except PyErr β}
    {k : α × List Tok → Except PErr γ} {k' : β → Except PyErr δ} (h : Sim (Rel φ) m g)
    (hk : ∀ a ts, Good ts → Sim S (k (a, ts)) (k' (φ a (stOf ts)))) : Sim S (m.bind k) (g.bind k') := by
  refine h.bind ?_
  rintro ⟨a, ts⟩ _ ⟨rfl, hg⟩
  exact hk a ts hg

theorem Sim.eat {ts : List Tok} (hg : Good ts) (ty : TT) :
    Sim (fun ts' (b : Bool × ParserState) => b.2 = stOf ts' ∧ Good ts') (Mathy.eat ty ts)
      (ExpressionParser_eat (stOf ts) (tyBits ty)) := by
  rw [Mathy.eat, ExpressionParser_eat, cur_type, tyBits_bne]
  refine .ite (fun _ => .error _) fun _ => ?_
  rcases ts with _ | ⟨t, r⟩
  · exact absurd rfl hg.wf.ne_nil
  rw [advance]
  by_cases hte : t.type = .eof
  · rw [if_pos (by simpa using hte), next_eof (ts := t :: r) hte]
    exact .error _
  · rw [if_neg (by simpa using hte), next_cons hg.wf hte]
    exact .ok ⟨rfl, hg.tail hte⟩

theorem Sim.eat_bind {S : γ → δ → Prop} {ts : List Tok} (hg : Good ts) (ty : TT) {k : List Tok → Except PErr γ}
    {k' : Bool × ParserState → Except PyErr δ} (hk : ∀ ts' v, Good ts' → Sim S (k ts') (k' (v, stOf ts'))) :
    Sim S ((Mathy.eat ty ts).bind k) ((ExpressionParser_eat (stOf ts) (tyBits ty)).bind k') := by
  refine (Sim.eat hg ty).bind ?_
  rintro ts' ⟨v, _⟩ ⟨rfl, hg'⟩
  exact hk ts' v hg'

structure Agree (n : Nat) : Prop where
  equal : ∀ ts, Good ts → Sim RP (parseEqual n ts) (ExpressionParser_parse_equal (n + 1) (stOf ts))
  equalL : ∀ acc ts, Good ts →
    Sim RL (equalLoop n acc ts) (ExpressionParser_parse_equal_while1 (n + 1) (stOf ts) acc)
  add : ∀ ts, Good ts → Sim RP (parseAdd n ts) (ExpressionParser_parse_add (n + 1) (stOf ts))
  addL : ∀ acc ts, Good ts → Sim RL (addLoop n acc ts) (ExpressionParser_parse_add_while1 (n + 1) (stOf ts) acc)
  mult : ∀ ts, Good ts → Sim RP (parseMult n ts) (ExpressionParser_parse_mult (n + 1) (stOf ts))
  multL : ∀ acc ts, Good ts →
    Sim RL (multLoop n acc ts) (ExpressionParser_parse_mult_while1 (n + 1) (stOf ts) acc)
  exp : ∀ ts, Good ts → Sim RP (parseExponent n ts) (ExpressionParser_parse_exponent (n + 1) (stOf ts))
  unary : ∀ ts, Good ts → Sim RP (parseUnary n ts) (ExpressionParser_parse_unary (n + 1) (stOf ts))
  fl : ∀ acc ts r, Good ts → Sim RF (factorsLoop n acc ts)
    (ExpressionParser_parse_factors_while1 (n + 1) (stOf ts) r true acc.reverse)
  factors : ∀ ts, Good ts → Sim RP (parseFactors n ts) (ExpressionParser_parse_factors (n + 1) (stOf ts))
  fn : ∀ ts, Good ts → headType ts = .function →
    Sim RP (parseFunction n ts) (ExpressionParser_parse_function (n + 1) (stOf ts))

theorem agree_zero : Agree 0 := by
  -- at fuel 0 every function of the model answers `.error .fuel`, of which `Sim` asks nothing
  constructor <;> intros <;> exact fun h => absurd rfl h

end Mathy.SrcAgree
