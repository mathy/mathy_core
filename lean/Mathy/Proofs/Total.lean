/-
Totality of `apply` on applicable nodes (property C06): a rule whose classifier accepts a node
never runs into one of `apply_to`'s assertions.  The associative case, `asApply_total`, is in `Arr`,
where `Props/C15Assoc` reaches it.
-/
import Mathy.Proofs.Terms
import Mathy.Proofs.Arr
namespace Mathy

theorem csApply_total {p : Bool} {k : Ctx} {n : Ex} (hc : csCan p k n = true) :
    ∃ res, csApply k n = .ok res := by
  cases n with
  | bin t o l r =>
    -- `csApply` succeeds on every binary node; it exchanges the operands unless `l` has the operator `o`
    rcases isOp_cases o l with ⟨t', a1, a2, rfl⟩ | hl
    · cases o <;> exact ⟨_, rfl⟩
    · exact ⟨_, csApply_swap k t o l r hl⟩
  | _ => cases hc

theorem caApply_completed {k : Ctx} {n : Ex} (hc : caCan n = true) :
    (∃ res, caApply k n = .ok res) ∨ caApply k n = .error .nonFinite ∨
      caApply k n = .error .outOfDomain := by
  obtain ⟨⟨ty, r⟩, hs⟩ := Option.isSome_iff_exists.mp hc
  have hr := caStep_arr hs
  unfold caApply
  rw [hs]
  rcases r with e | n'
  · right
    rcases hr with rfl | rfl
    · exact .inl rfl
    · exact .inr rfl
  · exact .inl ⟨_, rfl⟩

theorem dfCore_isSome {lt rt : TermEx} {f : FactorResult}
    (hl : lt.var = none → lt.exp = none) (hr : rt.var = none → rt.exp = none)
    (hf : factorAddTermsEx lt rt = some f) : ∃ core, dfCore lt rt = some core := by
  -- none of the three parts has an exponent without a variable
  obtain ⟨ha, hb, hc⟩ : (f.comVar = none → f.comExp = none) ∧ (f.leftVar = none → f.leftExp = none) ∧
      (f.rightVar = none → f.rightExp = none) := by
    cases factorAddTermsEx_spec hf with
    | shared => exact ⟨hl, fun _ => rfl, fun _ => rfl⟩
    | split => exact ⟨fun _ => rfl, hl, hr⟩
  obtain ⟨a, ha⟩ := makeTerm_isSome f.best ha
  obtain ⟨b, hb⟩ := makeTerm_isSome f.left hb
  obtain ⟨c, hc⟩ := makeTerm_isSome f.right hc
  simp only [dfCore, hf, ha, hb, hc]
  exact ⟨_, rfl⟩

theorem dfApply_total {cs : Bool} {k : Ctx} {n : Ex} (hc : dfCan cs n = true) :
    ∃ res, dfApply k n = .ok res := by
  obtain ⟨ty, ln, lt, rn, rt, wrap, f, hs, hf⟩ := dfCan_inv hc
  obtain ⟨hl, hr, -⟩ := dfStep_arr hs
  obtain ⟨core, hcore⟩ :=
    dfCore_isSome (getTermEx_exp_none_of_var_none hl) (getTermEx_exp_none_of_var_none hr) hf
  simp only [dfApply, hs, hcore]
  exact ⟨_, rfl⟩

theorem dmApply_total {k : Ctx} {n : Ex} (hc : dmCan n = true) :
    ∃ res, dmApply k n = .ok res := by
  unfold dmCan at hc
  split at hc
  next l r =>
    rcases isOp_cases .add l with ⟨_, _, _, rfl⟩ | hl
    · exact ⟨_, rfl⟩
    · rw [hl, Bool.false_or] at hc
      obtain ⟨_, _, _, rfl⟩ := Ex.isOp_inv hc
      exact ⟨_, dmApply_right _ _ _ _ _ hl⟩
  next => cases hc

theorem miApply_total {k : Ctx} {n : Ex} (hc : miCan n = true) :
    ∃ res, miApply k n = .ok res := by
  obtain ⟨t, l, r, rfl⟩ := Ex.isOp_inv hc
  cases hr : r.isUn .neg with
  | false => exact ⟨_, miApply_plain k t l hr⟩
  | true =>
    obtain ⟨_, _, rfl⟩ := Ex.isUn_inv hr
    exact ⟨_, rfl⟩

theorem rsApply_total {k : Ctx} {n : Ex} (hc : rsCan k n = true) :
    ∃ res, rsApply k n = .ok res := by
  obtain ⟨⟨ty, n'⟩, hs⟩ := Option.isSome_iff_exists.mp hc
  simp only [rsApply, hs]
  exact ⟨_, rfl⟩

theorem vmApply_total {k : Ctx} {n : Ex} (hc : vmCan n = true) :
    ∃ res, vmApply k n = .ok res := by
  obtain ⟨⟨ty, ⟨ln, lt⟩, ⟨rn, rt⟩, wrap⟩, hs⟩ := Option.isSome_iff_exists.mp hc
  obtain ⟨-, -, ⟨x, hx, -⟩, -⟩ := vmStep_arr hs
  simp only [vmApply, hs, hx]
  exact ⟨_, rfl⟩

theorem bmApply_total {k : Ctx} {n : Ex} (hc : bmCan k n = true) :
    ∃ res, bmApply k n = .ok res := by
  obtain ⟨ty, hty⟩ := Option.isSome_iff_exists.mp hc
  obtain ⟨inner, rootF, hsr⟩ := bmType_splitRoot hty
  have ht := bmType_inv hty hsr
  unfold bmApply
  rw [hty, hsr]
  cases rootF with
  | un => cases ht.root
  | binL | binR =>
    cases ty with
    | constOfMultiply => exact ⟨_, rfl⟩
    | addition =>
      -- the parent is an addition, so it is not the root equation: `inner` starts with that frame
      cases splitRoot_eq_some_iff.mp hsr
      cases inner with
      | nil => cases ht.root.symm.trans ht.parent
      | cons f fs =>
        have hf : f.isOp .add = true := ht.addParent rfl
        cases f with
        | un => cases hf
        | binL | binR => exact ⟨_, rfl⟩

theorem applyRule_total {r : Rule} (hr : r ≠ .constants) {k : Ctx} {n : Ex}
    (hc : canApply r k n = true) : ∃ res, applyRule r k n = .ok res := by
  cases r with
  | associative => exact asApply_total hc
  | commutative p => exact csApply_total hc
  | constants => exact absurd rfl hr
  | factorOut c => exact dfApply_total hc
  | distribute => exact dmApply_total hc
  | inverse => exact miApply_total hc
  | restate => exact rsApply_total hc
  | variableMultiply => exact vmApply_total hc
  | balancedMove => exact bmApply_total hc

end Mathy
