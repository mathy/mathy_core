/-
The traversals of `Model/Tree.lean` as runs of the visitor along their defining orders
(`visitX_eq_run`), and what the look-ups built on the in-order traversal read off such a run.
-/
import Mathy.Model.Tree
namespace Mathy
open BT

/-! All three traversals are "visit this, then that, then that", where nothing more is visited once a
callback has returned STOP.  That composition (`andThen`) is what running the visitor along an
appended list does (`run_append`). -/

def BT.run {α} (p : α → Bool) (xs : List α) : List α × Bool := (takeThrough p xs, xs.any p)

theorem BT.run_fst {α} (p : α → Bool) (xs : List α) : (run p xs).1 = takeThrough p xs := rfl

theorem BT.run_snd {α} (p : α → Bool) (xs : List α) : (run p xs).2 = xs.any p := rfl

def BT.andThen {α} (a b : List α × Bool) : List α × Bool :=
  if a.2 then (a.1, true) else (a.1 ++ b.1, b.2)

theorem BT.run_cons {α} (p : α → Bool) (x : α) (xs : List α) :
    run p (x :: xs) = if p x then ([x], true) else (x :: (run p xs).1, (run p xs).2) := by
  cases hx : p x <;> simp [run, takeThrough, hx]

theorem BT.run_append {α} (p : α → Bool) (xs ys : List α) :
    run p (xs ++ ys) = andThen (run p xs) (run p ys) := by
  induction xs with
  | nil => rfl
  | cons x xs ih =>
    rw [List.cons_append, run_cons, run_cons, ih]
    cases p x
    · simp only [andThen, Bool.false_eq_true, if_false]
      cases (run p xs).2 <;> rfl
    · rfl

theorem takeThrough_of_not_any {α} (p : α → Bool) (xs : List α) (h : xs.any p = false) :
    takeThrough p xs = xs := by
  induction xs with
  | nil => rfl
  | cons x xs ih =>
    simp only [List.any_cons, Bool.or_eq_false_iff] at h
    simp [takeThrough, h.1, ih h.2]

theorem visitPre_node (stop : Nat → Nat → Bool) (d i : Nat) (l r : BT) :
    (BT.node i l r).visitPre stop d =
      andThen (run (fun p => stop p.1 p.2) [(i, d)])
        (andThen (l.visitPre stop (d+1)) (r.visitPre stop (d+1))) := by
  simp only [visitPre, andThen, run_cons]
  cases stop i d <;> cases (l.visitPre stop (d+1)).2 <;> rfl

theorem visitIn_node (stop : Nat → Nat → Bool) (d i : Nat) (l r : BT) :
    (BT.node i l r).visitIn stop d =
      andThen (l.visitIn stop (d+1))
        (andThen (run (fun p => stop p.1 p.2) [(i, d)]) (r.visitIn stop (d+1))) := by
  simp only [visitIn, andThen, run_cons]
  cases stop i d <;> cases (l.visitIn stop (d+1)).2 <;> rfl

theorem visitPost_node (stop : Nat → Nat → Bool) (d i : Nat) (l r : BT) :
    (BT.node i l r).visitPost stop d =
      andThen (l.visitPost stop (d+1))
        (andThen (r.visitPost stop (d+1)) (run (fun p => stop p.1 p.2) [(i, d)])) := by
  simp only [visitPost, andThen, run_cons]
  cases stop i d <;> cases (l.visitPost stop (d+1)).2 <;> cases (r.visitPost stop (d+1)).2 <;> rfl

theorem visitPre_eq_run (stop : Nat → Nat → Bool) (d : Nat) (t : BT) :
    t.visitPre stop d = run (fun p => stop p.1 p.2) (t.preorder d) := by
  induction t generalizing d with
  | nil => rfl
  | node i l r ihl ihr => rw [visitPre_node, ihl, ihr, ← run_append, ← run_append]; rfl

theorem visitIn_eq_run (stop : Nat → Nat → Bool) (d : Nat) (t : BT) :
    t.visitIn stop d = run (fun p => stop p.1 p.2) (t.inorder d) := by
  induction t generalizing d with
  | nil => rfl
  | node i l r ihl ihr => rw [visitIn_node, ihl, ihr, ← run_append, ← run_append]; rfl

theorem visitPost_eq_run (stop : Nat → Nat → Bool) (d : Nat) (t : BT) :
    t.visitPost stop d = run (fun p => stop p.1 p.2) (t.postorder d) := by
  induction t generalizing d with
  | nil => rfl
  | node i l r ihl ihr => rw [visitPost_node, ihl, ihr, ← run_append, ← run_append]; rfl

theorem visitIn_never (d : Nat) (t : BT) :
    t.visitIn (fun _ _ => false) d = (t.inorder d, false) := by
  have h : (t.inorder d).any (fun _ => false) = false := by simp
  rw [visitIn_eq_run]
  exact Prod.ext ((run_fst ..).trans (takeThrough_of_not_any _ _ h)) ((run_snd ..).trans h)

theorem inorder_map_fst (d : Nat) (t : BT) : (t.inorder d).map (·.1) = t.ids := by
  induction t generalizing d with
  | nil => rfl
  | node i l r ihl ihr => simp only [inorder, ids, List.map_append, List.map_cons, ihl, ihr]

theorem lastOf_eq_getLast? {α} : ∀ xs : List α, lastOf xs = xs.getLast?
  | [] => rfl
  | [_] => rfl
  | _ :: y :: ys => by
    rw [lastOf, lastOf_eq_getLast? (y :: ys), List.getLast?_cons_cons]
    -- the equation of `lastOf` for `_ :: xs` asks that the earlier pattern `[x]` does not match
    exact List.cons_ne_nil _ _

theorem takeThrough_ne_nil {α} (p : α → Bool) : ∀ {xs : List α}, xs ≠ [] → takeThrough p xs ≠ []
  | [], h => absurd rfl h
  | x :: xs, _ => by simp only [takeThrough]; split <;> simp

theorem getLast?_takeThrough {α} (p : α → Bool) : ∀ (xs : List α), xs.any p = true →
    (takeThrough p xs).getLast? = xs.find? p
  | [], h => by simp at h
  | x :: xs, h => by
    cases hx : p x
    · have hrest : xs.any p = true := by simpa [hx] using h
      have hne : takeThrough p xs ≠ [] := takeThrough_ne_nil p fun e => by simp [e] at hrest
      rw [takeThrough, hx, if_neg Bool.false_ne_true, List.getLast?_cons_of_ne_nil hne,
        List.find?_cons_of_neg (by simp [hx])]
      exact getLast?_takeThrough p xs hrest
    · simp [takeThrough, hx]

theorem takeThrough_length_idxOf (i : Nat) (xs : List (Nat × Nat))
    (h : xs.any (fun x => x.1 == i) = true) :
    (takeThrough (fun x : Nat × Nat => x.1 == i) xs).length - 1 = (xs.map (·.1)).idxOf i := by
  induction xs with
  | nil => simp at h
  | cons x xs ih =>
    cases hx : x.1 == i
    · rw [List.any_cons, hx, Bool.false_or] at h
      have hpos : 0 < (takeThrough (fun x : Nat × Nat => x.1 == i) xs).length :=
        List.length_pos_iff.2 (takeThrough_ne_nil _ fun e => by simp [e] at h)
      rw [takeThrough, hx, if_neg Bool.false_ne_true, List.map_cons, List.idxOf_cons, hx, cond_false,
        ← ih h, List.length_cons]
      omega
    · simp [takeThrough, beq_iff_eq.1 hx]

/-- what `find_id` (expressions.py) and `find_node` (rule.py) share: stop at the first node
satisfying `q` and answer with the last callback -/
theorem visitIn_first (q : Nat → Bool) (t : BT) :
    (if (t.visitIn (fun j _ => q j) 0).2 then (t.visitIn (fun j _ => q j) 0).1.getLast? else none)
      = (t.inorder 0).find? (fun x => q x.1) := by
  rw [visitIn_eq_run]
  cases h : (t.inorder 0).any (fun x => q x.1)
  · rw [run_snd, h, if_neg Bool.false_ne_true, eq_comm, List.find?_eq_none]
    exact fun x hx => by simpa using List.any_eq_false.1 h x hx
  · rw [run_snd, h, if_pos rfl, run_fst, getLast?_takeThrough _ _ h]

end Mathy
