/-
The pointer-level `Heap.rotate` implements the functional `BT.rotateAt` on heaps representing a
tree with distinct node objects.  Statement by statement `n.rotate()` is
`parent.set_side(n's inner child)`, `n.set_side(parent)`, `n.parent = grand` and the grandparent's
link (`Heap.rotate_eq`), so what it does to a represented tree follows from `Rep.setSide` twice and
`Rep.setParent` (`rotate_rehang`), for either side at once.
-/
import Mathy.Proofs.HeapAttach
namespace Mathy
open BT

/-- the last statement of `rotate`: the grandparent `g`, if there is one, now points to `new`
where it pointed to `old` -/
def Heap.relink (h : Heap) (g : Option Nat) (old new : Nat) : Heap :=
  match g with
  | none => h
  | some g =>
    if (h g).left = some old then h.set g { h g with left := some new }
    else h.set g { h g with right := some new }

theorem Heap.relink_ne (h : Heap) (g : Option Nat) (old new x : Nat) (hx : g ≠ some x) :
    (h.relink g old new) x = h x := by
  cases g with
  | none => rfl
  | some g =>
    have : x ≠ g := fun e => hx (e ▸ rfl)
    simp only [Heap.relink]
    split <;> exact Heap.set_ne _ _ _ _ this

/-- the test of the left link alone decides rightly when only side `d` points to `old` -/
theorem Heap.relink_eq (h : Heap) (old new x : Nat) (d : Dir) (hd : (h x).child d = some old)
    (hd' : (h x).child d.flip ≠ some old) :
    (h.relink (some x) old new) x = (h x).setChild d (some new) := by
  cases d
  · rw [Heap.relink, if_pos (show (h x).left = some old from hd), Heap.set_eq]
    rfl
  · rw [Heap.relink, if_neg (show (h x).left ≠ some old from hd'), Heap.set_eq]
    rfl

theorem Heap.rotate_eq (h : Heap) (n pn : Nat) (d : Dir) (hn : (h n).parent = some pn)
    (hd : (h pn).child d = some n) (hd' : (h pn).child d.flip ≠ some n) :
    h.rotate n =
      ((((h.setSide pn ((h n).child d.flip) d).setSide n (some pn) d.flip).setParent (some n)
        (h pn).parent).relink (h pn).parent pn n) := by
  cases d
  · simp only [Heap.rotate, hn, Cell.child] at hd ⊢
    rw [if_pos hd]; rfl
  · simp only [Heap.rotate, hn, Cell.child, Dir.flip] at hd' ⊢
    rw [if_neg hd']; rfl

/-- the first three statements of `rotate`; `n` is on side `d` of `pn`, `b` the child of `n` that
changes hands -/
theorem rotate_rehang {h : Heap} {pn n : Nat} {d : Dir} {x b y : BT} {g : Option Nat}
    (hrep : Rep h (fork pn d (fork n d x b) y) g)
    (hnd : (fork pn d (fork n d x b) y).ids.Nodup) :
    Rep (((h.setSide pn b.rootId d).setSide n (some pn) d.flip).setParent (some n) g)
      (fork n d x (fork pn d b y)) g ∧
    ∀ a, a ∉ (fork pn d (fork n d x b) y).ids →
      (((h.setSide pn b.rootId d).setSide n (some pn) d.flip).setParent (some n) g) a = h a := by
  obtain ⟨-, c2, c3, hrepN, hy⟩ := rep_fork.1 hrep
  obtain ⟨e1, -, e3, hx, hb⟩ := rep_fork.1 hrepN
  have hnd3 : (fork n d x (fork pn d b y)).ids.Nodup := ids_fork_rotated pn n d x b y ▸ hnd
  obtain ⟨-, hnP, -, hnd1, hxP⟩ := nodup_fork.1 hnd3
  simp only [mem_ids_fork, not_or] at hnP hxP
  obtain ⟨hnpn, hnb, -⟩ := hnP
  have hbn : b.rootId ≠ some n := fun e => hnb (rootId_mem e)
  -- `pn.set_side(b, d)` writes the cells of `pn` and of the root of `b`
  have r1 : Rep (h.setSide pn b.rootId d) (fork pn d b y) g := Rep.setSide d c3 c2 hy hb hnd1
  have f1 : ∀ a, a ≠ pn → b.rootId ≠ some a → (h.setSide pn b.rootId d) a = h a :=
    Heap.setSide_other h pn b.rootId d
  -- `n.set_side(pn, other side)`: the cell of `n` and the tree `x` are still as in `h`
  have r2 : Rep ((h.setSide pn b.rootId d).setSide n (some pn) d.flip)
      (fork n d x (fork pn d b y)) (some pn) := by
    have r := Rep.setSide d.flip (q := n) (o := x) (par := some pn) (by rw [f1 n hnpn hbn]; exact e3)
      (by rw [f1 n hnpn hbn, Dir.flip_flip]; exact e1)
      (hx.frame fun a ha => f1 a (hxP a ha).1 fun e => (hxP a ha).2.1 (rootId_mem e))
      r1 (by rwa [fork_flip])
    rwa [rootId_fork, fork_flip] at r
  -- `n.parent = grand`
  refine ⟨r2.setParent g hnd3 (rootId_fork ..), fun a ha => ?_⟩
  simp only [mem_ids_fork, not_or] at ha
  obtain ⟨hapn, ⟨han, -, hab⟩, -⟩ := ha
  rw [Heap.setParent_ne _ _ _ _ fun e => han (Option.some.inj e).symm,
    Heap.setSide_other _ _ _ _ _ han fun e => hapn (Option.some.inj e).symm,
    f1 a hapn fun e => hab (rootId_mem e)]

/-- with the last statement: the grandparent, outside the tree, now points to `n` -/
theorem rotate_local {h : Heap} {pn n : Nat} {d : Dir} {x b y : BT} {g : Option Nat}
    (hrep : Rep h (fork pn d (fork n d x b) y) g)
    (hnd : (fork pn d (fork n d x b) y).ids.Nodup)
    (hg : ∀ a, g = some a → a ∉ (fork pn d (fork n d x b) y).ids) :
    Rep (h.rotate n) (fork n d x (fork pn d b y)) g ∧
    (∀ a, a ∉ (fork pn d (fork n d x b) y).ids → g ≠ some a → h.rotate n a = h a) ∧
    (∀ a d', g = some a → (h a).child d' = some pn → (h a).child d'.flip ≠ some pn →
      h.rotate n a = (h a).setChild d' (some n)) := by
  obtain ⟨c1, c2, c3, hrepN, -⟩ := rep_fork.1 hrep
  obtain ⟨-, e2, e3, -, -⟩ := rep_fork.1 hrepN
  obtain ⟨-, -, -, -, hNy⟩ := nodup_fork.1 hnd
  rw [rootId_fork] at c1
  rw [Heap.rotate_eq h n pn d e3 c1 (by
    rw [c2]; exact fun e => hNy n (mem_ids_fork.2 (.inl rfl)) (rootId_mem e)), e2, c3]
  obtain ⟨r3, frame⟩ := rotate_rehang hrep hnd
  refine ⟨r3.frame fun a ha => Heap.relink_ne _ _ _ _ _ fun e => hg a e ?_, ?_, ?_⟩
  · rwa [← ids_fork_rotated]
  · intro a ha hga
    rw [Heap.relink_ne _ _ _ _ _ hga, frame a ha]
  · rintro a d' rfl hd hd'
    rw [← frame a (hg a rfl)] at hd hd' ⊢
    exact Heap.relink_eq _ pn n a d' hd hd'

/-- C15 for a tree that hangs under any parent outside it, with the frame: no cell outside the tree
(the parent's apart) is written. -/
theorem heap_rotate_frame (h : Heap) (t : BT) (par : Option Nat) (p : Path) (n : Nat)
    (hrep : Rep h t par) (hnd : t.ids.Nodup) (hpar : ∀ a, par = some a → a ∉ t.ids)
    (hp : p ≠ []) (hn : (t.sub p).rootId = some n) :
    Rep (h.rotate n) (t.rotateAt p) par ∧
    ∀ a, a ∉ t.ids → par ≠ some a → h.rotate n a = h a := by
  -- the parent `pn` is the node at `pp`, with `n` on its side `d`
  obtain ⟨pp, d, rfl⟩ := (List.eq_nil_or_concat p).resolve_left hp
  rw [List.concat_eq_append] at hn ⊢
  rw [sub_append] at hn
  rw [rotateAt_snoc]
  obtain ⟨pn, sn, y, hsubP, hsn⟩ := exists_fork_of_sub hn
  obtain ⟨x, b, rfl⟩ := exists_fork d hsn
  have hPt : ∀ a ∈ (fork pn d (fork n d x b) y).ids, a ∈ t.ids := hsubP ▸ sub_ids_subset pp t
  rw [hsubP, rotateTop_fork]
  rcases List.eq_nil_or_concat pp with rfl | ⟨pg, d', rfl⟩
  · rw [sub_root] at hsubP
    subst hsubP
    rw [replaceAt_root]
    obtain ⟨hrot, hframe, -⟩ := rotate_local hrep hnd hpar
    exact ⟨hrot, hframe⟩
  · -- the grandparent `gg` is the node at `pg`, with `pn` on its side `d'`
    rw [List.concat_eq_append] at hsubP ⊢
    rw [sub_append] at hsubP
    have hpn : ((t.sub pg).sub [d']).rootId = some pn := by rw [hsubP, rootId_fork]
    obtain ⟨gg, sp, o, hsubG, -⟩ := exists_fork_of_sub hpn
    obtain rfl : sp = fork pn d (fork n d x b) y := by rw [← hsubP, hsubG, sub_fork, sub_root]
    obtain ⟨gpar, hrepG⟩ := hrep.sub pg
    have hndG := nodup_sub pg t hnd
    have hggt : gg ∈ t.ids :=
      sub_ids_subset pg t gg (by rw [hsubG]; exact mem_ids_fork.2 (.inl rfl))
    rw [hsubG] at hrepG hndG
    obtain ⟨c1, c2, -, hrepP, -⟩ := rep_fork.1 hrepG
    obtain ⟨hggP, -, hndP, -, hPo⟩ := nodup_fork.1 hndG
    obtain ⟨hrot, hframe, hlink⟩ := rotate_local hrepP hndP (by rintro _ ⟨rfl⟩; exact hggP)
    have hpno : (h gg).child d'.flip ≠ some pn := by
      rw [c2]; exact fun e => hPo pn (mem_ids_fork.2 (.inl rfl)) (rootId_mem e)
    refine ⟨Rep.replaceAt_snoc d' hrot ?_ pg hrep hnd (by rw [hsubG, rootId_fork])
        fun a _ haP hag => ?_,
      fun a hat _ => hframe a (fun hm => hat (hPt a hm)) fun e => hat (Option.some.inj e ▸ hggt)⟩
    · rw [rootId_fork]
      exact hlink gg d' rfl (by rw [c1, rootId_fork]) hpno
    · rw [sub_append, hsubG, sub_fork, sub_root] at haP
      exact hframe a haP fun e => hag (Option.some.inj e).symm

end Mathy
