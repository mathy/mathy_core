/-
The tokenizer model maps the character-level `__str__` model (`strChars`) to the token-level one
(`printToks`): lemmas for `Props/C04Str.lean`.  Runs of digits and of letters are read by `C11_number_run`,
`C11_alpha_run` and `C11_operator`, whence the import of a Props file.
-/
import Mathy.Proofs.PrintLemmas
import Mathy.Props.C11
namespace Mathy
namespace StrTok

/-- what may follow a printed sub-expression: nothing, or a character that cannot extend its last token -/
def Boundary (rest : List Char) : Prop :=
  ∀ c, rest.head? = some c → isNumber c = false ∧ isAlpha c = false

/-- `|v|` is written as a non-empty run of digits/dots, variables are letters, no `abs` node (not a registered name) -/
def StrOk (nt : Rat → List Char) : Ex → Prop
  | .const _ v => nt (if v < 0 then -v else v) ≠ [] ∧ ∀ c ∈ nt (if v < 0 then -v else v), isNumber c = true
  | .var _ x => isAlpha x = true
  | .un _ .abs _ => False
  | .un _ .neg c => StrOk nt c
  | .un _ .fact c => StrOk nt c
  | .un _ .sgn c => StrOk nt c
  | .bin _ _ l r => StrOk nt l ∧ StrOk nt r

section
variable {nt : Rat → List Char} {t : Nat}

theorem strOk_var {x : Char} : StrOk nt (.var t x) ↔ isAlpha x = true := Iff.rfl

theorem strOk_bin {o : Bop} {l r : Ex} : StrOk nt (.bin t o l r) ↔ StrOk nt l ∧ StrOk nt r := Iff.rfl

end

/-- in front of any `Boundary` the text `s` contributes exactly the tokens `ts` -/
def Lexes (s : List Char) (ts : List Tok) : Prop :=
  ∀ rest, Boundary rest → tokBody false (s ++ rest) = (tokBody false rest).map (fun r => ts ++ r)

theorem _root_.Except.map_map {α β γ ε : Type} (f : α → β) (g : β → γ) (r : Except ε α) :
    (r.map f).map g = r.map (fun x => g (f x)) := by
  cases r <;> rfl

theorem boundary_nil : Boundary [] := by intro c h; simp at h

theorem boundary_cons (c : Char) (rest : List Char) (hn : isNumber c = false) (ha : isAlpha c = false) :
    Boundary (c :: rest) := by
  intro d h; simp at h; subst h; exact ⟨hn, ha⟩

/-- a character of `operatorTok` with its tokens (none for the blank) -/
structure OpChar (c : Char) (t : List Tok) : Prop where
  hn : isNumber c = false
  ha : isAlpha c = false
  ho : operatorTok false c = some t

theorem tokBody_opchar {c : Char} {t : List Tok} (h : OpChar c t) (rest : List Char) :
    tokBody false (c :: rest) = (tokBody false rest).map (fun r => t ++ r) :=
  C11_operator false c rest t h.hn h.ha h.ho

theorem op_lparen : OpChar '(' [tk .openParen "("] := ⟨by decide, by decide, by decide⟩
theorem op_rparen : OpChar ')' [tk .closeParen ")"] := ⟨by decide, by decide, by decide⟩
theorem op_minus : OpChar '-' [tk .minus "-"] := ⟨by decide, by decide, by decide⟩
theorem op_bang : OpChar '!' [tk .factorial "!"] := ⟨by decide, by decide, by decide⟩
theorem op_caret : OpChar '^' [tk .exponent "^"] := ⟨by decide, by decide, by decide⟩
theorem op_space : OpChar ' ' [] := ⟨by decide, by decide, by decide⟩

theorem op_bop (o : Bop) : OpChar (opChar o) [opTok o] := by
  cases o <;> exact ⟨by decide, by decide, by decide⟩

theorem Lexes.nil : Lexes [] [] := by
  intro rest _
  rw [List.nil_append]
  cases tokBody false rest <;> rfl

theorem Lexes.seq {c : Char} {t : List Tok} (h : OpChar c t) {s1 s2 : List Char} {ts1 ts2 : List Tok}
    (h1 : Lexes s1 ts1) (h2 : Lexes s2 ts2) : Lexes (s1 ++ c :: s2) (ts1 ++ t ++ ts2) := by
  intro rest hb
  have hb' : Boundary (c :: (s2 ++ rest)) := boundary_cons c _ h.hn h.ha
  rw [List.append_assoc, List.cons_append, h1 _ hb', tokBody_opchar h, h2 rest hb, Except.map_map, Except.map_map]
  simp [List.append_assoc]

theorem Lexes.cons {c : Char} {t : List Tok} (h : OpChar c t) {s : List Char} {ts : List Tok}
    (hs : Lexes s ts) : Lexes (c :: s) (t ++ ts) :=
  Lexes.seq h Lexes.nil hs

theorem Lexes.snoc {c : Char} {t : List Tok} (h : OpChar c t) {s : List Char} {ts : List Tok}
    (hs : Lexes s ts) : Lexes (s ++ [c]) (ts ++ t) := by
  simpa using Lexes.seq h hs Lexes.nil

theorem Lexes.paren {s : List Char} {ts : List Tok} (hs : Lexes s ts) (b : Bool) :
    Lexes (parensC b s) (parens b ts) := by
  cases b with
  | false => simpa [parensC, parens] using hs
  | true =>
    have := Lexes.cons op_lparen (Lexes.snoc op_rparen hs)
    simpa [parensC, parens, List.append_assoc] using this

/-- `str(constant)` in front of anything that is not a digit/dot (a letter may follow: `4x`) -/
theorem tokBody_const (nt : Rat → List Char) (t : Nat) (v : Rat) (rest : List Char)
    (hok : StrOk nt (.const t v)) (hrest : ∀ c, rest.head? = some c → isNumber c = false) :
    tokBody false (constChars nt v ++ rest) = (tokBody false rest).map (fun r => constToks nt v ++ r) := by
  obtain ⟨hne, hrun⟩ := hok
  unfold constChars constToks
  by_cases hv : v < 0
  · simp only [hv, if_true] at hne hrun ⊢
    rw [List.cons_append, tokBody_opchar op_minus, C11_number_run false _ _ hne hrun hrest, Except.map_map]
    rfl
  · simp only [hv, if_false] at hne hrun ⊢
    rw [C11_number_run false _ _ hne hrun hrest]
    rfl

theorem lexes_const (nt : Rat → List Char) (t : Nat) (v : Rat) (hok : StrOk nt (.const t v)) :
    Lexes (constChars nt v) (constToks nt v) := by
  intro rest hb
  exact tokBody_const nt t v rest hok (fun c hc => (hb c hc).1)

/-- `4x`, `4x^2`: the letter ends the number, so no boundary is needed between the two pieces -/
theorem Lexes.constLeft {nt : Rat → List Char} {t : Nat} {v : Rat} (hok : StrOk nt (.const t v))
    {x : Char} (hx : isAlpha x = true) {s : List Char} {ts : List Tok} (hs : Lexes (x :: s) ts) :
    Lexes (constChars nt v ++ x :: s) (constToks nt v ++ ts) := by
  intro rest hb
  have hhead : ∀ d, ((x :: s) ++ rest).head? = some d → isNumber d = false := by
    intro d hd
    obtain rfl : x = d := by simpa using hd
    exact isNumber_of_isAlpha hx
  rw [List.append_assoc, tokBody_const nt t v _ hok hhead, hs rest hb, Except.map_map]
  simp [List.append_assoc]

theorem lexes_var (x : Char) (hx : isAlpha x = true) : Lexes [x] [⟨.variable, [x]⟩] := by
  intro rest hb
  rw [C11_alpha_run false [x] rest (by simp) (by simpa using hx) (fun c hc => (hb c hc).2)]
  have : functionNames.contains [x] = false := by simp [functionNames]
  rw [this]
  rfl

/-- with its `(`, which is what ends the run of letters -/
theorem Lexes.sgn {s : List Char} {ts : List Tok} (hs : Lexes s ts) :
    Lexes ("sgn".toList ++ '(' :: s) (tk .function "sgn" :: tk .openParen "(" :: ts) := by
  intro rest hb
  have hrest : ∀ c, ('(' :: (s ++ rest)).head? = some c → isAlpha c = false := by
    intro c hc; simp at hc; subst hc; decide
  rw [List.append_assoc, List.cons_append,
    C11_alpha_run false "sgn".toList _ (by decide) (by decide) hrest, tokBody_opchar op_lparen,
    hs rest hb, Except.map_map, Except.map_map]
  have : functionNames.contains "sgn".toList = true := by decide
  rw [this]
  rfl

theorem lexes_str (nt : Rat → List Char) : ∀ (e : Ex) (p : Option (Bop × Side)), StrOk nt e →
    Lexes (strChars nt p e) (printToks nt p e) := by
  intro e
  induction e with
  | const t v =>
    intro p hok
    simpa [strChars, printToks] using lexes_const nt t v hok
  | var t x =>
    intro p hok
    simpa [strChars, printToks] using lexes_var x (strOk_var.1 hok)
  | un t o c ih =>
    intro p hok
    cases o with
    | abs => exact absurd hok (by simp [StrOk])
    | neg =>
      have := Lexes.cons op_minus ((ih none hok).paren (negateNeedsParens c))
      simpa [strChars, printToks] using this
    | fact =>
      have := Lexes.snoc op_bang (ih none hok)
      simpa [strChars, printToks] using this
    | sgn =>
      have := Lexes.sgn (Lexes.snoc op_rparen (ih none hok))
      simpa [strChars, printToks, parensC, Mathy.parens, List.append_assoc] using this
  | bin t o l r ihl ihr =>
    intro p hok
    obtain ⟨hl, hr⟩ := strOk_bin.1 hok
    by_cases ho : o = .pow
    · subst ho
      have := Lexes.seq op_caret ((ihl (some (.pow, .left)) hl).paren (powerBaseNeedsParens l))
        ((ihr (some (.pow, .right)) hr).paren (r.isOp .pow))
      simpa [strChars, printToks, List.append_assoc] using this
    · rw [PP.strChars_bin nt p t o l r ho, PP.printToks_bin nt p t o l r ho]
      by_cases hcp : isCompactProduct (.bin t o l r) = true
      · rw [if_pos hcp, if_pos hcp]
        -- `4x`, `4x^2`: the text of the right factor begins with its letter
        rcases PP.isCompactProduct_cases hcp with ⟨t', tc, c, tx, x, he⟩ | ⟨t', tc, c, tp, tx, x, k, he⟩
        · cases he
          exact Lexes.constLeft hl (strOk_var.1 hr) (ihr (some (.mul, .right)) hr)
        · cases he
          have hk := ihr (some (.mul, .right)) hr
          rw [PP.strChars_pow_var] at hk ⊢
          exact Lexes.constLeft hl (strOk_var.1 (strOk_bin.1 hr).1) hk
      · rw [if_neg hcp, if_neg hcp]
        have h1 := Lexes.seq op_space (ihl (some (o, .left)) hl)
          (Lexes.cons (op_bop o) (Lexes.cons op_space (ihr (some (o, .right)) hr)))
        have := h1.paren (selfParens o p)
        simpa [List.append_assoc] using this

end StrTok
end Mathy
