/-
`get_sub_terms` never hits one of its assertions on an expression without an equation node: in the
in-order list of such an expression every leaf that has a successor is followed by a binary operator
other than `=` (`GoodAdj`), and every step of the scan leaves a suffix of the list to be read, so
`GoodAdj` holds throughout and the fuel suffices.
-/
import Mathy.Model.SubTerms
import Mathy.Proofs.ExLemmas
namespace Mathy
namespace ST

/-- no `=` node anywhere in the tree (the hypothesis of `C16_getSubTerms_never_raises`) -/
def NoEqNode : Ex → Bool
  | .const .. => true
  | .var .. => true
  | .un _ _ c => NoEqNode c
  | .bin _ o l r => o != .eq && NoEqNode l && NoEqNode r

/-- a binary operator other than `=` -/
def okAfterLeaf (b : Ex) : Prop := b.isAddSub = true ∨ b.isMulDivPow = true

def GoodAdj : List Ex → Prop
  | [] => True
  | [_] => True
  | a :: b :: tl => (a.isLeaf = true → okAfterLeaf b) ∧ GoodAdj (b :: tl)

theorem GoodAdj.tail {a : Ex} {l : List Ex} (h : GoodAdj (a :: l)) : GoodAdj l := by
  cases l with
  | nil => trivial
  | cons b tl => exact h.2

theorem okAfterLeaf_bin (t : Nat) (o : Bop) (l r : Ex) (ho : (o != .eq) = true) : okAfterLeaf (.bin t o l r) := by
  cases o with
  | add | sub => exact .inl rfl
  | mul | div | pow => exact .inr rfl
  | eq => cases ho

theorem goodAdj_append {l1 l2 : List Ex} {x : Ex} (h1 : GoodAdj l1) (hx : okAfterLeaf x)
    (h2 : GoodAdj (x :: l2)) : GoodAdj (l1 ++ x :: l2) := by
  induction l1 with
  | nil => exact h2
  | cons a l1 ih =>
    cases l1 with
    | nil => exact ⟨fun _ => hx, h2⟩
    | cons b tl => exact ⟨h1.1, ih h1.2⟩

theorem goodAdj_cons_nonleaf {x : Ex} {l : List Ex} (hx : x.isLeaf = false) (h : GoodAdj l) : GoodAdj (x :: l) := by
  cases l with
  | nil => trivial
  | cons b tl => exact ⟨fun hl => by simp [hx] at hl, h⟩

theorem goodAdj_inorder (e : Ex) (h : NoEqNode e = true) : GoodAdj (inorderNodes e) := by
  induction e with
  | const | var => trivial
  | un t o c ih =>
    simp only [NoEqNode] at h
    exact goodAdj_cons_nonleaf rfl (ih h)
  | bin t o l r ihl ihr =>
    simp only [NoEqNode, Bool.and_eq_true] at h
    obtain ⟨⟨ho, hl⟩, hr⟩ := h
    exact goodAdj_append (ihl hl) (okAfterLeaf_bin t o l r ho) (goodAdj_cons_nonleaf rfl (ihr hr))

theorem isConst_leaf (e : Ex) (h : e.isConst = true) : e.isLeaf = true := by
  obtain ⟨_, _, rfl⟩ := isConst_eq_true h
  rfl

theorem isVar_leaf (e : Ex) (h : e.isVar = true) : e.isLeaf = true := by
  obtain ⟨_, _, rfl⟩ := isVar_eq_true h
  rfl

/-- the part of the in-order list that is still to be read: `current`, then `nodes` -/
def rest (cur : Option Ex) (nodes : List Ex) : List Ex := cur.toList ++ nodes

theorem rest_pop (l : List Ex) : rest (popNode l).1 (popNode l).2 = l := by cases l <;> rfl

theorem pop_suffix {l m : List Ex} (h : l <:+ m) : rest (popNode l).1 (popNode l).2 <:+ m := by rwa [rest_pop]

theorem GoodAdj.suffix {l l' : List Ex} (h : GoodAdj l) (hs : l' <:+ l) : GoodAdj l' := by
  induction l with
  | nil => rw [List.suffix_nil.mp hs]; trivial
  | cons a l ih =>
    rcases List.suffix_cons_iff.mp hs with rfl | hs
    · exact h
    · exact ih h.tail hs

/-- after a leaf followed by an operator other than `=`, if by anything: no assertion fails, a suffix is left -/
theorem afterLeaf_ok {c : Option Ex} {ns : List Ex} (hc : ∀ b, c = some b → okAfterLeaf b) :
    afterLeaf c ns = none ∨ ∃ c' ns', afterLeaf c ns = some (some (c', ns')) ∧ rest c' ns' <:+ rest c ns := by
  cases c with
  | none => exact .inr ⟨_, _, rfl, pop_suffix (List.suffix_refl _)⟩
  | some b =>
    by_cases hadd : b.isAddSub = true
    · exact .inl (by simp [afterLeaf, optIs, hadd])
    · have hm : b.isMulDivPow = true := (hc b rfl).resolve_left hadd
      by_cases hp : Ex.isOp .pow b = true
      · exact .inr ⟨some b, ns, by simp [afterLeaf, optIs, hadd, hm, hp], List.suffix_refl _⟩
      · exact .inr ⟨_, _, by simp [afterLeaf, optIs, hadd, hm, hp], pop_suffix (List.suffix_cons b ns)⟩

/-- a coefficient / variable step: nothing is taken and nothing moves, or reading goes on inside `nodes` -/
theorem takeLeaf_ok (leaf : Ex → Bool) (hleaf : ∀ e, leaf e = true → e.isLeaf = true)
    {cur : Option Ex} {nodes : List Ex} (h : GoodAdj (rest cur nodes)) :
    takeLeaf leaf cur nodes = none ∨ ∃ t c ns, takeLeaf leaf cur nodes = some (some (t, c, ns)) ∧
      ((t = none ∧ c = cur ∧ ns = nodes) ∨ rest c ns <:+ nodes) := by
  unfold takeLeaf
  by_cases hl : optIs leaf cur = true
  · obtain ⟨a, rfl⟩ : ∃ a, cur = some a := by
      cases cur with
      | none => cases hl
      | some a => exact ⟨a, rfl⟩
    have hb : ∀ b, (popNode nodes).1 = some b → okAfterLeaf b := by
      intro b hb
      cases nodes with
      | nil => cases hb
      | cons b' tl => cases hb; exact h.1 (hleaf a hl)
    rcases afterLeaf_ok (ns := (popNode nodes).2) hb with h1 | ⟨c', ns', h1, hs⟩
    · exact .inl (by simp [hl, h1])
    · exact .inr ⟨some a, c', ns', by simp [hl, h1], .inr (by rwa [rest_pop] at hs)⟩
  · exact .inr ⟨_, _, _, by simp [hl], .inl ⟨rfl, rfl, rfl⟩⟩

/-- an iteration that had `current :: nodes` to read: no assertion failed, a suffix of `nodes` is left -/
def StepOk (nodes : List Ex) (s : StepOut) : Prop :=
  s ≠ .raised ∧ ∀ c ns t, s = .next c ns t → rest c ns <:+ nodes

theorem stepOk_notTerms (nodes : List Ex) : StepOk nodes .notTerms := ⟨by simp, by simp⟩

theorem stepOk_next {nodes ns : List Ex} {c : Option Ex} (t) (h : rest c ns <:+ nodes) :
    StepOk nodes (.next c ns t) :=
  ⟨by simp, fun _ _ _ e => by cases e; exact h⟩

theorem step_ok {cur : Ex} {nodes : List Ex} (h : GoodAdj (cur :: nodes)) :
    StepOk nodes (subTermsStep cur nodes) := by
  unfold subTermsStep
  split
  · exact stepOk_next _ (pop_suffix (List.suffix_refl _))  -- a unary minus is skipped
  rcases takeLeaf_ok Ex.isConst isConst_leaf (cur := some cur) h with h1 | ⟨tC, c1, n1, h1, d1⟩ <;>
    simp only [h1]
  · exact stepOk_notTerms _
  have g1 : GoodAdj (rest c1 n1) := by
    rcases d1 with ⟨-, rfl, rfl⟩ | s
    · exact h
    · exact h.suffix (s.trans (List.suffix_cons _ _))
  rcases takeLeaf_ok Ex.isVar isVar_leaf g1 with h2 | ⟨tV, c2, n2, h2, d2⟩ <;> simp only [h2]
  · exact stepOk_notTerms _
  have d : (tC = none ∧ tV = none ∧ c2 = some cur ∧ n2 = nodes) ∨ rest c2 n2 <:+ nodes := by
    rcases d1 with ⟨rfl, rfl, rfl⟩ | s1 <;> rcases d2 with ⟨rfl, rfl, rfl⟩ | s2
    · exact .inl ⟨rfl, rfl, rfl, rfl⟩
    · exact .inr s2
    · exact .inr s1
    · exact .inr (s2.trans ((List.suffix_append _ _).trans s1))
  -- all that an arm that pops needs of `d`
  have hn2 : n2 <:+ nodes := by
    rcases d with ⟨-, -, -, rfl⟩ | s
    · exact List.suffix_refl _
    · exact (List.suffix_append _ _).trans s
  by_cases hp : optIs (Ex.isOp .pow) c2 = true
  · simp only [hp, if_true]
    -- after `^` the exponent is popped, then the next `current`
    have hs := pop_suffix ((List.suffix_append _ _).trans (pop_suffix hn2))
    split  -- was nothing taken?
    · split
      · exact stepOk_next _ (pop_suffix ((List.suffix_append _ _).trans hs))  -- a `*` continues the term
      · exact stepOk_notTerms _
    · exact stepOk_next _ hs  -- the triple is appended
  · simp only [hp, Bool.false_eq_true, if_false]
    split  -- was nothing taken?
    · split
      · exact stepOk_next _ (pop_suffix hn2)  -- a `*` continues the term
      · exact stepOk_notTerms _
    · next hnone =>
      -- the triple is appended, nothing popped: something was taken, so `d` is its second case
      refine stepOk_next _ (d.resolve_left ?_)
      rintro ⟨rfl, rfl, -⟩
      simp at hnone

theorem loop_ok (fuel : Nat) (cur : Option Ex) (nodes : List Ex) (acc : List (Option Ex × Option Ex × Option Ex))
    (h : GoodAdj (rest cur nodes)) (hf : (rest cur nodes).length < fuel) :
    subTermsLoop fuel cur nodes acc ≠ .raised := by
  induction fuel generalizing cur nodes acc with
  | zero => omega
  | succ fuel ih =>
    cases cur with
    | none => simp [subTermsLoop]
    | some c =>
      obtain ⟨h1, h2⟩ := step_ok h
      simp only [subTermsLoop]
      cases hstep : subTermsStep c nodes with
      | raised => exact absurd hstep h1
      | notTerms => simp
      | next c' ns t =>
        have hs : rest c' ns <:+ nodes := h2 c' ns t hstep
        have hl : (rest c' ns).length ≤ nodes.length := hs.length_le
        have hf' : (rest c' ns).length < fuel := by
          have : (rest (some c) nodes).length = nodes.length + 1 := by simp [rest]
          omega
        have hg := h.suffix (hs.trans (List.suffix_cons _ _))
        cases t <;> exact ih _ _ _ hg hf'

end ST
end Mathy
