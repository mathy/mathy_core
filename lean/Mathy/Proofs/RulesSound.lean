/-
Value soundness of the rules that do not look at terms, arrangement by arrangement: each of them
preserves the result of evaluation exactly, errors included.
-/
import Mathy.Proofs.Eval
import Mathy.Proofs.Arr
namespace Mathy

theorem ASRot.evalEq {m n' : Ex} (h : ASRot m n') : EvalEq m n' := by
  intro env
  cases h with
  | left ho => exact res_assoc ho ..
  | right ho => exact (res_assoc ho ..).symm

theorem CSArr.evalEq {p : Bool} {k : Ctx} {n n' : Ex} (h : CSArr n n') (hc : csCan p k n = true) :
    EvalEq n n' := by
  intro env
  cases h with
  | chain ho =>
    simp only [eval]
    rcases ho with rfl | rfl <;> ac_rfl
  | @swap t o a b =>
    simp only [eval]
    cases o
    case add | mul => exact Std.Commutative.comm ..
    case eq => exact res_eq_comm ..
    -- `csCan` is `false` on `-`, `/`, `^`
    all_goals cases hc

theorem MIArr.evalEq {n n' : Ex} (h : MIArr n n') : EvalEq n n' := by
  intro env
  cases h <;> simp only [eval, eval_clone]
  · exact res_div_neg_eq ..
  · exact res_div_eq ..

theorem dmBuild_evalEq (t t' : Nat) (a b c : Ex) :
    EvalEq (.bin t .mul a (.bin t' .add b c)) (dmBuild a b c) := by
  intro env
  simp only [dmBuild, eval, res_mul_add]
  split_ifs <;> simp only [eval, eval_clone]
  -- a product written constant first
  all_goals ac_rfl

theorem DMArr.evalEq {n n' : Ex} (h : DMArr n n') : EvalEq n n' := by
  cases h with
  | @left t t' a b c =>
    exact fun env => (Std.Commutative.comm (op := Res.bin .mul) ..).trans (dmBuild_evalEq t t' a b c env)
  | right => exact dmBuild_evalEq _ _ _ _ _

theorem RSArr.evalEq {n n' : Ex} (h : RSArr n n') : EvalEq n n' := by
  intro env
  cases h <;>
    simp only [eval, eval_clone, res_sub_eq, res_neg_mul, res_neg_ok, mul_neg_one, neg_neg]

theorem CAArr.evalEq {n n' : Ex} (h : CAArr n n') : EvalEq n n' := by
  intro env
  cases h <;> simp only [eval, res_mul_ok]
  case simple hv => exact hv
  case negationSimple hv => exact hv
  case chainedRightDeep ho hv | chainedRight ho hv =>
    -- `hv` read from right to left: the folded `v` is `a ∘ b` again, and the goal is a re-bracketing
    rw [← show Res.bin _ (.ok _) (.ok _) = _ from hv]
    simp only [res_assoc ho]
  all_goals ac_rfl

/-! Three arms of the restate rule on results: equalities, stated as refinements as in C01. -/

theorem r_sub_const (A : Res) (v : Rat) :
    RRef (Res.bin .sub A (.ok v)) (Res.bin .add A (.ok (v * -1))) := by
  rw [res_sub_eq, res_neg_ok, mul_neg_one]; exact RRef.refl _

theorem r_sub_const' (A : Res) (v : Rat) :
    RRef (Res.bin .sub A (.ok v)) (Res.bin .add A (.ok (-v))) := by
  rw [res_sub_eq, res_neg_ok]; exact RRef.refl _

theorem r_sub_term (A R : Res) (v : Rat) :
    RRef (Res.bin .sub A (Res.bin .mul (.ok v) R)) (Res.bin .add A (Res.bin .mul (.ok (v * -1)) R)) := by
  rw [res_sub_eq, res_neg_mul, mul_neg_one]; exact RRef.refl _

end Mathy
