/-
`Heap.clone` allocates a fresh copy, laid out in pre-order from `base` (`BT.relabel`), and writes no
cell but those of the copy.  The copy of a node is a new cell that gets its two sides attached, each
time by a `set_side` on a heap that represents the forest built so far (`Rep.setSide`).
-/
import Mathy.Proofs.HeapAttach
namespace Mathy
open BT

theorem BT.relabel_node (i : Nat) (l r : BT) (b : Nat) :
    (BT.node i l r).relabel b =
      (.node b (l.relabel (b + 1)).1 (r.relabel (l.relabel (b + 1)).2).1,
        (r.relabel (l.relabel (b + 1)).2).2) := rfl

theorem BT.relabel_snd (t : BT) : ∀ b, (t.relabel b).2 = b + t.size := by
  induction t with
  | nil => intro b; rfl
  | node i l r ihl ihr =>
    intro b
    rw [BT.relabel_node]
    simp only [ihl, ihr, BT.size]
    omega

theorem BT.relabel_size (t : BT) : ∀ b, (t.relabel b).1.size = t.size := by
  induction t with
  | nil => intro b; rfl
  | node i l r ihl ihr =>
    intro b
    rw [BT.relabel_node]
    simp only [ihl, ihr, BT.size]

theorem BT.relabel_depth (t : BT) : ∀ b, (t.relabel b).1.depth = t.depth := by
  induction t with
  | nil => intro b; rfl
  | node i l r ihl ihr =>
    intro b
    rw [BT.relabel_node]
    simp only [ihl, ihr, BT.depth]

theorem BT.relabel_ids (t : BT) : ∀ b, ∀ x ∈ (t.relabel b).1.ids, b ≤ x ∧ x < (t.relabel b).2 := by
  induction t with
  | nil => intro b x hx; cases hx
  | node i l r ihl ihr =>
    intro b
    rw [BT.relabel_node]
    have hl := relabel_snd l (b + 1)
    have hr := relabel_snd r (l.relabel (b + 1)).2
    refine forall_mem_ids_node.2 ⟨by omega, fun x hx => ?_, fun x hx => ?_⟩
    · have := ihl _ x hx; omega
    · have := ihr _ x hx; omega

theorem BT.not_mem_relabel {x b : Nat} (t : BT) (h : x < b) : x ∉ (t.relabel b).1.ids :=
  fun hm => Nat.not_le.2 h (relabel_ids t b x hm).1

theorem BT.relabel_nodup (t : BT) : ∀ b, (t.relabel b).1.ids.Nodup := by
  induction t with
  | nil => exact fun _ => List.nodup_nil
  | node i l r ihl ihr =>
    intro b
    simp only [BT.relabel_node]
    rw [← fork_L]
    have hl := relabel_snd l (b + 1)
    refine nodup_fork.2 ⟨not_mem_relabel l (Nat.lt_succ_self b),
      not_mem_relabel r (by omega), ihl _, ihr _, fun a ha hr => ?_⟩
    exact Nat.not_le.2 (relabel_ids l _ a ha).2 (relabel_ids r _ a hr).1

/-- the body of `result.set_left(self.left.clone())` / `result.set_right(self.right.clone())` -/
def Heap.cloneSide (d : Dir) (fuel : Nat) (h : Heap) (r : Nat) (child : Option Nat) (next : Nat) :
    Heap × Nat :=
  match child with
  | some l => ((Heap.clone fuel h l next).1.setSide r (some (Heap.clone fuel h l next).2.1) d,
      (Heap.clone fuel h l next).2.2)
  | none => (h, next)

/-- `rfl`: the model destructures the triples that `cloneSide` projects -/
theorem Heap.clone_succ (f : Nat) (h : Heap) (a base : Nat) :
    Heap.clone (f + 1) h a base =
      let h1 := h.set base ⟨none, none, none⟩
      let P := Heap.cloneSide .L f h1 base (h1 a).left (base + 1)
      let Q := Heap.cloneSide .R f P.1 base (P.1 a).right P.2
      (Q.1, base, Q.2) := rfl

/-- `i < base` on the ids of `t` is the allocator's freshness, `t.depth ≤ f` the fuel bound -/
def CloneSpec (f : Nat) (t : BT) : Prop :=
  ∀ (h : Heap) (par : Option Nat) (a base : Nat),
    Rep h t par → t.rootId = some a → (∀ i ∈ t.ids, i < base) → t.depth ≤ f →
    ∃ h', h.clone f a base = (h', base, (t.relabel base).2) ∧
      Rep h' (t.relabel base).1 none ∧ ∀ x ∉ (t.relabel base).1.ids, h' x = h x

/-- `c` is the original's child on side `d`; the copy `b` has nothing on side `d` yet and `o` on the
other; all of them lie below `nb`, where the copy of `c` goes -/
theorem cloneSide_spec (d : Dir) {c : BT} (o : BT) {f : Nat} (ih : CloneSpec f c) (h1 : Heap)
    (b nb : Nat) {par : Option Nat} (hc : Rep h1 c par) (hdepth : c.depth ≤ f)
    (hcopy : Rep h1 (fork b d .nil o) none) (hbo : b ∉ o.ids) (hond : o.ids.Nodup)
    (hclt : ∀ i ∈ c.ids, i < nb) (hblt : b < nb) (holt : ∀ i ∈ o.ids, i < nb) :
    ∃ h', Heap.cloneSide d f h1 b c.rootId nb = (h', (c.relabel nb).2) ∧
      Rep h' (fork b d (c.relabel nb).1 o) none ∧
      ∀ x, x ≠ b → x ∉ (c.relabel nb).1.ids → h' x = h1 x := by
  cases c with
  | nil => exact ⟨h1, rfl, hcopy, fun _ _ _ => rfl⟩
  | node ci cl cr =>
    obtain ⟨h', e, hrep, hfr⟩ := ih h1 par ci nb hc rfl hclt hdepth
    obtain ⟨-, c2, c3, -, horep⟩ := rep_fork.1 hcopy
    -- the clone wrote neither the cell `b` nor those of `o`: they lie below `nb`
    have hbcell : h' b = h1 b := hfr b (not_mem_relabel _ hblt)
    refine ⟨h'.setSide b (some nb) d, by rw [rootId, Heap.cloneSide, e], ?_, fun x hxb hx => ?_⟩
    · exact Rep.setSide (s := ((BT.node ci cl cr).relabel nb).1) d (by rw [hbcell, c3])
        (by rw [hbcell, c2]) (horep.frame fun x hx => hfr x (not_mem_relabel _ (holt x hx))) hrep
        (nodup_fork.2 ⟨not_mem_relabel _ hblt, hbo, relabel_nodup _ nb, hond,
          fun a ha hao => not_mem_relabel _ (holt a hao) ha⟩)
    · exact (Heap.setSide_other h' b (some nb) d x hxb fun e => hx (rootId_mem e)).trans (hfr x hx)

theorem clone_spec (t : BT) : ∀ f, CloneSpec f t := by
  induction t with
  | nil => intro f h par a base _ hroot; cases hroot
  | node i l r ihl ihr =>
    intro fuel h par a base hrep hroot hfresh hfuel
    cases fuel with
    | zero => exact absurd hfuel (Nat.not_succ_le_zero _)
    | succ f =>
      cases hroot
      obtain ⟨c1, c2, -, hrl, hrr⟩ := hrep
      simp only [BT.depth] at hfuel
      obtain ⟨hib, hfl, hfr⟩ := forall_mem_ids_node.1 hfresh
      rw [Heap.clone_succ, BT.relabel_node]
      -- `result = self.__class__()`
      have h1ne : ∀ x, x ≠ base → (h.set base ⟨none, none, none⟩) x = h x :=
        fun x hx => Heap.set_ne _ _ _ _ hx
      have h1b : (h.set base ⟨none, none, none⟩) base = ⟨none, none, none⟩ := Heap.set_eq ..
      generalize h.set base ⟨none, none, none⟩ = h1 at h1ne h1b ⊢
      dsimp only
      -- `result.set_left(self.left.clone())`: the copy of `l` is laid out from `base + 1`
      rw [h1ne i (Nat.ne_of_lt hib), c1]
      obtain ⟨hP, eP, repP, frP⟩ := cloneSide_spec .L .nil (ihl f) h1 base (base + 1)
        (hc := hrl.frame fun x hx => h1ne x (Nat.ne_of_lt (hfl x hx))) (hdepth := by omega)
        (hcopy := rep_fork.2 ⟨by rw [h1b]; rfl, by rw [h1b]; rfl, by rw [h1b], trivial, trivial⟩)
        (hbo := List.not_mem_nil) (hond := List.nodup_nil)
        (hclt := fun x hx => Nat.lt_succ_of_lt (hfl x hx)) (hblt := Nat.lt_succ_self _)
        (holt := fun _ hx => nomatch hx)
      have hn1 : base < (l.relabel (base + 1)).2 := by rw [relabel_snd]; omega
      have hPlt : ∀ x, x < base → hP x = h x := fun x hx =>
        (frP x (Nat.ne_of_lt hx) (not_mem_relabel l (Nat.lt_succ_of_lt hx))).trans
          (h1ne x (Nat.ne_of_lt hx))
      rw [eP]
      dsimp only
      -- `result.set_right(self.right.clone())`: the copy of `r` from where that of `l` ends
      rw [hPlt i hib, c2]
      obtain ⟨hQ, eQ, repQ, frQ⟩ := cloneSide_spec .R (l.relabel (base + 1)).1 (ihr f) hP base
        (l.relabel (base + 1)).2
        (hc := hrr.frame fun x hx => hPlt x (hfr x hx)) (hdepth := by omega)
        (hcopy := by rwa [fork_R, ← fork_L])
        (hbo := not_mem_relabel l (Nat.lt_succ_self _)) (hond := relabel_nodup l _)
        (hclt := fun x hx => Nat.lt_trans (hfr x hx) hn1) (hblt := hn1)
        (holt := fun x hx => (relabel_ids l _ x hx).2)
      rw [eQ]
      refine ⟨hQ, rfl, fork_R .. ▸ repQ, fun x hx => ?_⟩
      simp only [mem_ids_node, not_or] at hx
      obtain ⟨hxb, hxl, hxr⟩ := hx
      rw [frQ x hxb hxr, frP x hxb hxl]
      exact h1ne x hxb

end Mathy
