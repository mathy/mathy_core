/-
The model's parenthesisation predicates are the printer's (translated source), for ALL nodes.
`Gen/PySrcPrint.lean` is regenerated on every run from the live Python source by `harness/py2lean.py`
(statement-by-statement translation over `Model/PyRt.lean`).
-/
import Mathy.Gen.PySrcPrint
import Mathy.Model.Print
import Mathy.Proofs.PyRtLemmas
namespace Mathy.SrcAgree
open Mathy.Py Mathy.Gen.Src

/-- kind and side of the binary parent of a position, `none` for the root and under a unary node -/
def ctxParent : Ctx → Option (Bop × Side)
  | .binL _ p _ :: _ => some (p, .left)
  | .binR _ p _ :: _ => some (p, .right)
  | _ => none

theorem get_priority_agree (k : Ctx) (t : Nat) (o : Bop) (l r : Ex) :
    BinaryExpression_get_priority (some ⟨k, .bin t o l r⟩) = o.priority := by
  cases o <;> rfl

theorem isinstance_bin (k : Ctx) (t : Nat) (o : Bop) (l r : Ex) :
    isinstance (some ⟨k, .bin t o l r⟩) [.BinaryExpression] = true ∧
    isinstance (some ⟨k, .bin t o l r⟩) [.AddExpression, .SubtractExpression] = o.isAddSub ∧
    isinstance (some ⟨k, .bin t o l r⟩) [.MultiplyExpression, .DivideExpression] = o.isMulDiv ∧
    isinstance (some ⟨k, .bin t o l r⟩) [.DivideExpression] = (o == .div) := by
  cases o <;> exact ⟨rfl, rfl, rfl, rfl⟩

theorem self_parens_agree (k : Ctx) (t : Nat) (o : Bop) (l r : Ex) :
    BinaryExpression_self_parens (some ⟨k, .bin t o l r⟩) = selfParens o (ctxParent k) := by
  cases k with
  | nil => rfl
  | cons f k' =>
    cases f with
    | un ft fo => cases fo <;> rfl
    | binL ft p fr | binR ft p fr =>
      simp only [BinaryExpression_self_parens, Ref.parent, Frame.fill, get_priority_agree, isinstance_bin,
        Ref.truthy, Ref.sideOf, ctxParent, selfParens]
      -- the same table on both sides now: Python's `if c then True else …` chain for the model's
      -- `c₁ || c₂ || c₃`, the side compared as a string
      simp [show (Side.left == Side.right) = false from rfl, show (Side.right == Side.left) = false from rfl,
        show (p == Bop.div) = decide (p = .div) from rfl]

theorem is_compact_product_agree (k : Ctx) (e : Ex) :
    is_compact_product (some ⟨k, e⟩) = isCompactProduct e := by
  -- the tests of the Python function in its order: a product, a literal on the left, then the right
  cases e with
  | bin t o l r =>
    cases o with
    | mul =>
      cases l with
      | const =>
        cases r with
        | bin rt ro rl rr =>
          cases ro with
          | pow => cases rl <;> rfl
          | _ => rfl
        | _ => rfl
      | _ => rfl
    | _ => rfl
  | _ => rfl

theorem is_compact_product_none : is_compact_product none = false := rfl

theorem power_base_needs_parens_agree (k : Ctx) (e : Ex) :
    power_base_needs_parens (some ⟨k, e⟩) = powerBaseNeedsParens e := by
  cases e with
  | const t v => rfl
  | var t x => rfl
  | un t o c => cases o <;> rfl
  | bin t o l r =>
    cases o
    case mul => exact is_compact_product_agree k (.bin t .mul l r)
    all_goals rfl

theorem negate_needs_parens_agree (k : Ctx) (e : Ex) :
    negate_needs_parens (some ⟨k, e⟩) = negateNeedsParens e := by
  cases e with
  | const t v => exact numLt_zero v
  | var t x => rfl
  | un t o c => cases o <;> rfl
  | bin t o l r =>
    cases o
    case pow =>
      cases l with
      | un lt lo lc => cases lo <;> rfl
      | _ => rfl
    case mul =>
      cases l with
      | const lt lv =>
        show (if is_compact_product (some ⟨k, .bin t .mul (.const lt lv) r⟩) then numLt (some lv) 0 else true) = _
        rw [is_compact_product_agree, numLt_zero]
        rfl
      | _ => rfl
    all_goals rfl

end Mathy.SrcAgree
