/-
The token shapes of `Model/Problems.lean` are derivable in the documented grammar, with a tree that
is known well enough to read the like-term promise off it.
-/
import Mathy.Model.Problems
import Mathy.Proofs.GrammarLemmas
import Mathy.Proofs.TermsLikeLemmas
namespace Mathy

/-- `PItem.ok` of a term, first half: `coerce_to_number` accepts the coefficient, where there is one -/
def CoefOk (c : Option PNum) : Prop := ∀ n, c = some n → n.ok = true
/-- second half: and the exponent -/
def PowOk (p : Option (List Char)) : Prop := ∀ t, p = some t → (parseNumber t).isSome = true

@[simp] theorem powOk_none : PowOk none := fun _ h => nomatch h

@[simp] theorem term_ok_iff (c : Option PNum) (v : Char) (p : Option (List Char)) :
    (PItem.term c v p).ok = true ↔ CoefOk c ∧ PowOk p := by
  cases c <;> cases p <;> simp [PItem.ok, CoefOk, PowOk]

theorem FlatProblem.ok_iff (p : FlatProblem) :
    p.ok = true ↔ p.first.ok = true ∧ (∀ q ∈ p.rest, q.2.ok = true) ∧
      ∀ gs ge, p.group = some (gs, ge) → gs < ge ∧ ge ≤ p.rest.length := by
  obtain ⟨first, rest, group⟩ := p
  cases group with
  | none => simp [FlatProblem.ok]
  | some g => simp [FlatProblem.ok, and_assoc, Prod.ext_iff]

namespace Prob
open G PP

/-- meant only under `PNum.ok` / `PowOk`, where `parseNumber` succeeds -/
def litVal (t : List Char) : Rat := (parseNumber t).getD 0

def numVal (n : PNum) : Rat := if n.neg then -(litVal n.text) else litVal n.text

def baseTree (v : Char) : Option (List Char) → Ex
  | none => .var 0 v
  | some p => .bin 0 .pow (.var 0 v) (.const 0 (litVal p))

/-- the tree the grammar prescribes for an item -/
def itemTree : PItem → Ex
  | .num n => .const 0 (numVal n)
  | .term none v pow => baseTree v pow
  | .term (some n) v pow => .bin 0 .mul (.const 0 (numVal n)) (baseTree v pow)

theorem lit_of_isSome {t : List Char} (h : (parseNumber t).isSome = true) :
    Lit ⟨.constant, t⟩ (litVal t) := by
  refine ⟨rfl, ?_⟩
  unfold litVal
  cases hq : parseNumber t with
  | none => simp [hq] at h
  | some q => rfl

theorem base_factors (v : Char) (pow : Option (List Char)) (h : PowOk pow) :
    Factors (PItem.term none v pow).toks (baseTree v pow) := by
  cases pow with
  | none => exact var_factor (xt := ⟨.variable, [v]⟩) rfl
  | some p =>
    exact pow_factor (xt := ⟨.variable, [v]⟩) (pt := ⟨.exponent, ['^']⟩) rfl rfl (lit_of_isSome (h p rfl))

theorem num_slit (n : PNum) (h : n.ok = true) : SLit n.toks (numVal n) := by
  obtain ⟨neg, text⟩ := n
  cases neg
  · exact .pos _ _ (lit_of_isSome h)
  · exact .neg ⟨.minus, ['-']⟩ _ _ rfl (lit_of_isSome h)

theorem item_unary (it : PItem) (h : it.ok = true) : UnaryE it.toks (itemTree it) := by
  cases it with
  | num n => exact (num_slit n h).unary
  | term coef v pow =>
    obtain ⟨hc, hp⟩ := (term_ok_iff coef v pow).1 h
    cases coef with
    | none => exact .factors (base_factors v pow hp)
    | some n =>
      have : (PItem.term (some n) v pow).toks = n.toks ++ (PItem.term none v pow).toks := by
        simp [PItem.toks]
      rw [this]
      exact (num_slit n (hc n rfl)).factors (base_factors v pow hp)

theorem item_exp (it : PItem) (h : it.ok = true) : ExpE it.toks (itemTree it) :=
  .unary (item_unary it h)

theorem item_add (it : PItem) (h : it.ok = true) : AddE it.toks (itemTree it) :=
  mult_add (exp_mult (item_exp it h))

/-- one link `opᵢ uᵢ` of a chain `u₀ op₁ u₁ … opₙ uₙ`: operator, tokens and tree of `uᵢ` -/
structure Chunk where
  op : POpr
  toks : List Tok
  tree : Ex

def chunksToks (cs : List Chunk) : List Tok := cs.flatMap fun c => c.op.tok :: c.toks

def allPlus (cs : List Chunk) : Bool := cs.all fun c => c.op == .plus

/-- the addends of the `+` tree at the root; `-` is not split, as like terms are promised only where
every operator is `+` (`promisesLike_iff`) -/
def addends : Ex → List Ex
  | .bin _ .add l r => addends l ++ addends r
  | e => [e]

theorem chunksToks_cons (o : POpr) (ts : List Tok) (e : Ex) (cs : List Chunk) :
    chunksToks (⟨o, ts, e⟩ :: cs) = o.tok :: ts ++ chunksToks cs := rfl

theorem chunksToks_append (a b : List Chunk) : chunksToks (a ++ b) = chunksToks a ++ chunksToks b := by
  simp [chunksToks]

/-- `ts` is the product that `u₀` starts (all chunks up to the first `+`/`-`), `us` the rest of the
chain; the loop reads `us` from any accumulator, and `f` is what it returns -/
theorem chain_split : ∀ (cs : List Chunk) (t0 : List Tok) (e0 : Ex), ExpE t0 e0 →
    (∀ c ∈ cs, ExpE c.toks c.tree) →
    ∃ (ts us : List Tok) (m : Ex) (f : Ex → Ex), t0 ++ chunksToks cs = ts ++ us ∧ MultE ts m ∧
      (∀ acc, AddLoop acc us (f acc)) ∧
      (allPlus cs = true →
        m = e0 ∧ ∀ acc, addends (f acc) = addends acc ++ cs.flatMap fun c => addends c.tree) := by
  intro cs
  induction cs with
  | nil =>
    intro t0 e0 h0 _
    exact ⟨t0, [], e0, id, rfl, exp_mult h0, fun acc => AddLoop.done acc,
      fun _ => ⟨rfl, fun _ => (List.append_nil _).symm⟩⟩
  | cons c cs ih =>
    intro t0 e0 h0 hcs
    obtain ⟨o, t1, e1⟩ := c
    obtain ⟨h1, hcs⟩ := List.forall_mem_cons.1 hcs
    obtain ⟨ts', us', m', f', heq, hm', hf', hall'⟩ := ih t1 e1 h1 hcs
    have htoks : t0 ++ chunksToks (⟨o, t1, e1⟩ :: cs) = t0 ++ o.tok :: (ts' ++ us') := by
      rw [← heq]; rfl
    cases o with
    | times =>
      refine ⟨t0 ++ POpr.times.tok :: ts', us', .bin 0 .mul e0 m', f', ?_, ?_, hf', ?_⟩
      · rw [htoks]; simp
      · exact MultE.mk h0 (MultLoop.mul _ rfl hm')
      · intro h; simp [allPlus] at h
    | plus =>
      refine ⟨t0, POpr.plus.tok :: ts' ++ us', e0, fun acc => f' (.bin 0 .add acc m'), htoks,
        exp_mult h0, fun acc => AddLoop.plus _ rfl hm' (hf' _), fun h => ?_⟩
      obtain ⟨hm, hf⟩ := hall' (by simpa [allPlus] using h)
      exact ⟨rfl, fun acc => by rw [hf, hm]; simp [addends]⟩
    | minus =>
      refine ⟨t0, POpr.minus.tok :: ts' ++ us', e0, fun acc => f' (.bin 0 .sub acc m'), htoks,
        exp_mult h0, fun acc => AddLoop.minus _ rfl hm' (hf' _), fun h => ?_⟩
      simp [allPlus] at h

/-- the operator of the first chunk is not part of the text -/
theorem chain_add : ∀ (cs : List Chunk), cs ≠ [] → (∀ c ∈ cs, ExpE c.toks c.tree) →
    ∃ e, AddE (chunksToks cs).tail e ∧
      (allPlus cs = true → addends e = cs.flatMap fun c => addends c.tree)
  | [], h, _ => absurd rfl h
  | c :: cs, _, hcs => by
    obtain ⟨hc, hcs⟩ := List.forall_mem_cons.1 hcs
    obtain ⟨ts, us, m, f, heq, hm, hf, hall⟩ := chain_split cs c.toks c.tree hc hcs
    have he : AddE (c.toks ++ chunksToks cs) (f m) := heq ▸ AddE.mk hm (hf m)
    refine ⟨f m, he, fun h => ?_⟩
    obtain ⟨h1, h2⟩ := hall (Bool.and_eq_true_iff.1 (List.all_cons.symm.trans h)).2
    rw [h2, h1]
    rfl

def plainRest (r : List (POpr × PItem)) : List Tok := r.flatMap fun q => q.1.tok :: q.2.toks

def toChunks (r : List (POpr × PItem)) : List Chunk := r.map fun q => ⟨q.1, q.2.toks, itemTree q.2⟩

theorem chunksToks_toChunks (r : List (POpr × PItem)) : chunksToks (toChunks r) = plainRest r :=
  List.flatMap_map ..

theorem plainRest_append (a b : List (POpr × PItem)) :
    plainRest (a ++ b) = plainRest a ++ plainRest b := by
  simp [plainRest]

theorem allPlus_toChunks (r : List (POpr × PItem)) :
    allPlus (toChunks r) = r.all fun q => q.1 == .plus := by
  simp [allPlus, toChunks, List.all_map, Function.comp_def]

theorem addends_item (it : PItem) : addends (itemTree it) = [itemTree it] := by
  cases it with
  | num n => rfl
  | term coef v pow => cases coef <;> cases pow <;> rfl

theorem addends_toChunks (r : List (POpr × PItem)) :
    ((toChunks r).flatMap fun c => addends c.tree) = r.map fun q => itemTree q.2 := by
  rw [toChunks, List.flatMap_map, List.map_eq_flatMap]
  simp only [addends_item]

theorem toChunks_exp (r : List (POpr × PItem)) (h : ∀ q ∈ r, q.2.ok = true) :
    ∀ c ∈ toChunks r, ExpE c.toks c.tree := by
  intro c hc
  simp only [toChunks, List.mem_map] at hc
  obtain ⟨q, hq, rfl⟩ := hc
  exact item_exp q.2 (h q hq)

theorem plain_add (r : List (POpr × PItem)) (hne : r ≠ []) (hr : ∀ q ∈ r, q.2.ok = true) :
    ∃ e, AddE (plainRest r).tail e ∧
      ((r.all fun q => q.1 == .plus) = true → addends e = r.map fun q => itemTree q.2) := by
  obtain ⟨e, he, hl⟩ := chain_add (toChunks r) (by simpa [toChunks] using hne) (toChunks_exp r hr)
  rw [chunksToks_toChunks] at he
  exact ⟨e, he, fun h => by rw [hl ((allPlus_toChunks r).trans h), addends_toChunks]⟩

theorem paren_prim (r : List (POpr × PItem)) (hne : r ≠ []) (hr : ∀ q ∈ r, q.2.ok = true) :
    ∃ e, Prim (openTok :: (plainRest r).tail ++ [closeTok]) e ∧
      ((r.all fun q => q.1 == .plus) = true → addends e = r.map fun q => itemTree q.2) := by
  obtain ⟨e, he, hl⟩ := plain_add r hne hr
  exact ⟨e, .paren openTok closeTok rfl rfl he, hl⟩

theorem exists_split {α : Type} {l : List α} {i j : Nat} {x y : α} (hij : i < j)
    (hi : l[i]? = some x) (hj : l[j]? = some y) :
    ∃ A M C, l = A ++ x :: (M ++ y :: C) ∧ A.length = i ∧ i + 1 + M.length = j := by
  obtain ⟨hi', rfl⟩ := List.getElem?_eq_some_iff.1 hi
  obtain ⟨hj', rfl⟩ := List.getElem?_eq_some_iff.1 hj
  refine ⟨l.take i, (l.drop (i + 1)).take (j - i - 1), l.drop (j + 1), ?_,
    List.length_take_of_le (by omega), by rw [List.length_take_of_le (by rw [List.length_drop]; omega)]; omega⟩
  have hM : (l.drop (i + 1)).take (j - i - 1) ++ l[j] :: l.drop (j + 1) = l.drop (i + 1) := by
    have := List.take_append_drop (j - i - 1) (l.drop (i + 1))
    rwa [List.drop_drop, show i + 1 + (j - i - 1) = j by omega, List.drop_eq_getElem_cons hj'] at this
  rw [hM, ← List.drop_eq_getElem_cons hi', List.take_append_drop]

theorem getElem?_split {α : Type} (l m r : List α) (a b : α) :
    (l ++ a :: (m ++ b :: r))[l.length]? = some a ∧
    (l ++ a :: (m ++ b :: r))[l.length + 1 + m.length]? = some b := by
  constructor
  · rw [List.getElem?_append_right (Nat.le_refl _), Nat.sub_self, List.getElem?_cons_zero]
  · rw [List.getElem?_append_right (by omega), show l.length + 1 + m.length - l.length = m.length + 1 by omega,
      List.getElem?_cons_succ, List.getElem?_append_right (Nat.le_refl _), Nat.sub_self, List.getElem?_cons_zero]

/-- tokens of the items `r`, each after its operator; the first of them is item number `k` of `p` -/
def segToks (p : FlatProblem) (k : Nat) (r : List (POpr × PItem)) : List Tok :=
  (r.zipIdx k).flatMap fun ((o, it), i) => o.tok :: p.itemToks i it

theorem segToks_cons (p : FlatProblem) (k : Nat) (q : POpr × PItem) (r : List (POpr × PItem)) :
    segToks p k (q :: r) = q.1.tok :: p.itemToks k q.2 ++ segToks p (k + 1) r := by
  simp only [segToks, List.zipIdx_cons, List.flatMap_cons, List.cons_append]

theorem segToks_append (p : FlatProblem) (k : Nat) (a b : List (POpr × PItem)) :
    segToks p k (a ++ b) = segToks p k a ++ segToks p (k + a.length) b := by
  simp only [segToks, List.zipIdx_append, List.flatMap_append]

/-- the first item is read as if a `+` stood before it -/
theorem toks_eq (p : FlatProblem) : p.toks = (segToks p 0 ((.plus, p.first) :: p.rest)).tail := by
  rw [segToks_cons, segToks, List.zipIdx_succ, List.flatMap_map]
  rfl

theorem itemToks_plain (p : FlatProblem) (i : Nat) (it : PItem)
    (h : ∀ gs ge, p.group = some (gs, ge) → gs ≠ i ∧ ge ≠ i) : p.itemToks i it = it.toks := by
  unfold FlatProblem.itemToks
  cases hg : p.group with
  | none => simp only [List.nil_append, List.append_nil]
  | some g =>
    obtain ⟨h1, h2⟩ := h g.1 g.2 hg
    simp only [beq_iff_eq, h1, h2, if_false, List.nil_append, List.append_nil]

theorem itemToks_open (p : FlatProblem) {gs ge : Nat} (hg : p.group = some (gs, ge)) (h : gs < ge) (it : PItem) :
    p.itemToks gs it = openTok :: it.toks := by
  have : ge ≠ gs := by omega
  simp only [FlatProblem.itemToks, hg, BEq.rfl, if_true, beq_iff_eq, this, if_false, List.append_nil,
    List.cons_append, List.nil_append]

theorem itemToks_close (p : FlatProblem) {gs ge : Nat} (hg : p.group = some (gs, ge)) (h : gs < ge) (it : PItem) :
    p.itemToks ge it = it.toks ++ [closeTok] := by
  have : gs ≠ ge := by omega
  simp only [FlatProblem.itemToks, hg, BEq.rfl, if_true, beq_iff_eq, this, if_false, List.nil_append]

theorem segToks_plain (p : FlatProblem) : ∀ (r : List (POpr × PItem)) (k : Nat),
    (∀ gs ge, p.group = some (gs, ge) → ∀ i, k ≤ i → i < k + r.length → gs ≠ i ∧ ge ≠ i) →
    segToks p k r = plainRest r := by
  intro r
  induction r with
  | nil => intro k _; rfl
  | cons q r ih =>
    intro k h
    have hq := itemToks_plain p k q.2 fun gs ge hg => h gs ge hg k (Nat.le_refl _) (by rw [List.length_cons]; omega)
    have hr := ih (k + 1) fun gs ge hg i h1 h2 => h gs ge hg i (by omega) (by rw [List.length_cons]; omega)
    rw [segToks_cons, hr, hq]
    rfl

theorem segToks_group (p : FlatProblem) {gs ge : Nat} (hg : p.group = some (gs, ge)) (hlt : gs < ge)
    (A M C : List (POpr × PItem)) (x y : POpr × PItem) (hA : A.length = gs) (hM : gs + 1 + M.length = ge) :
    segToks p 0 (A ++ x :: (M ++ y :: C)) =
      plainRest A ++ (x.1.tok :: (openTok :: (plainRest (x :: (M ++ [y]))).tail ++ [closeTok]) ++ plainRest C) := by
  have hplain : ∀ (r : List (POpr × PItem)) (k : Nat),
      (k + r.length ≤ gs ∨ (gs < k ∧ k + r.length ≤ ge) ∨ ge < k) → segToks p k r = plainRest r := fun r k hk =>
    segToks_plain p r k fun _ _ h i h1 h2 => by rw [hg] at h; cases h; omega
  rw [segToks_append, segToks_cons, segToks_append, segToks_cons,
    hplain A 0 (by omega), hplain M _ (by omega), hplain C _ (by omega),
    Nat.zero_add, hA, hM,
    itemToks_open p hg hlt, itemToks_close p hg hlt]
  simp only [plainRest, List.flatMap_append, List.flatMap_cons, List.flatMap_nil, List.tail_cons, List.append_assoc,
    List.cons_append, List.nil_append, List.append_nil]

/-- `items`: the items of `p`, each behind its operator (`toks_eq`) -/
theorem seg_derivation (p : FlatProblem) (items : List (POpr × PItem)) (hne : items ≠ [])
    (hok : ∀ q ∈ items, q.2.ok = true) (hgrp : ∀ gs ge, p.group = some (gs, ge) → gs < ge ∧ ge < items.length) :
    ∃ e, AddE (segToks p 0 items).tail e ∧
      ((items.all fun q => q.1 == .plus) = true → addends e = items.map fun q => itemTree q.2) := by
  cases hg : p.group with
  | none =>
    rw [segToks_plain p items 0 (by intro _ _ h; rw [hg] at h; cases h)]
    exact plain_add items hne hok
  | some g =>
    obtain ⟨gs, ge⟩ := g
    obtain ⟨hlt, hle⟩ := hgrp gs ge hg
    -- cut the items at the brackets: `(` stands before `x`, `)` after `y`
    obtain ⟨x, hx⟩ : ∃ x, items[gs]? = some x := ⟨_, List.getElem?_eq_getElem (by omega)⟩
    obtain ⟨y, hy⟩ : ∃ y, items[ge]? = some y := ⟨_, List.getElem?_eq_getElem hle⟩
    obtain ⟨A, M, C, rfl, hA, hM⟩ := exists_split hlt hx hy
    simp only [List.forall_mem_append, List.forall_mem_cons] at hok
    obtain ⟨hAok, hxok, hMok, hyok, hCok⟩ := hok
    -- `x M y` is a chain of its own; in brackets it is ONE link of the outer chain `A (x M y) C`
    obtain ⟨g, hg', hgl⟩ := paren_prim (x :: (M ++ [y])) (List.cons_ne_nil _ _)
      (List.forall_mem_cons.2 ⟨hxok, List.forall_mem_append.2 ⟨hMok, List.forall_mem_singleton.2 hyok⟩⟩)
    obtain ⟨e, he, hl⟩ := chain_add (toChunks A ++ ⟨x.1, _, g⟩ :: toChunks C)
      (List.append_ne_nil_of_right_ne_nil _ (List.cons_ne_nil _ _))
      (List.forall_mem_append.2 ⟨toChunks_exp A hAok, List.forall_mem_cons.2
        ⟨.unary (prim_unary hg'), toChunks_exp C hCok⟩⟩)
    rw [chunksToks_append, chunksToks_cons, chunksToks_toChunks, chunksToks_toChunks,
      ← segToks_group p hg hlt A M C x y hA hM] at he
    refine ⟨e, he, fun hp => ?_⟩
    simp only [List.all_append, List.all_cons, Bool.and_eq_true] at hp
    obtain ⟨hA', hx', hM', hy', hC'⟩ := hp
    refine (hl ?_).trans ?_
    · simp only [allPlus, List.all_append, List.all_cons, Bool.and_eq_true]
      exact ⟨(allPlus_toChunks A).trans hA', hx', (allPlus_toChunks C).trans hC'⟩
    · rw [List.flatMap_append, List.flatMap_cons, addends_toChunks, addends_toChunks, hgl ?_]
      · simp only [List.map_append, List.map_cons, List.map_nil, List.append_assoc, List.cons_append, List.nil_append]
      · simp only [List.all_append, List.all_cons, List.all_nil, Bool.and_true, Bool.and_eq_true]
        exact ⟨hx', hM', hy'⟩

theorem flat_derivation (p : FlatProblem) (h : p.ok = true) :
    ∃ e, AddE p.toks e ∧
      ((p.rest.all fun q => q.1 == .plus) = true → addends e = p.items.map itemTree) := by
  obtain ⟨hf, hrest, hgrp⟩ := p.ok_iff.1 h
  obtain ⟨e, he, hl⟩ := seg_derivation p ((.plus, p.first) :: p.rest) (List.cons_ne_nil _ _)
    (List.forall_mem_cons.2 ⟨hf, hrest⟩) fun gs ge hg => (hgrp gs ge hg).imp_right Nat.lt_succ_of_le
  refine ⟨e, toks_eq p ▸ he, fun hp => ?_⟩
  rw [hl hp, FlatProblem.items, List.map_cons, List.map_cons, List.map_map]
  rfl

/-- a summand: not itself a sum, no sum inside -/
def Atom (e : Ex) : Prop := e.isAddSub = false ∧ sumChildren e = []

/-- `sumChildren` also descends through `-` and into sub-trees, but in an `Atom` it finds nothing there -/
theorem sum_addends : ∀ e : Ex, (∀ l ∈ addends e, Atom l) →
    (e.isAddSub = true → sumChildren e = addends e) ∧
    (e.isAddSub = false → sumChildren e = [] ∧ addends e = [e]) := by
  intro e
  induction e with
  | bin t o l r ihl ihr =>
    intro h
    by_cases ho : o = .add
    · subst ho
      have hl := ihl (fun x hx => h x (by simp [addends, hx]))
      have hr := ihr (fun x hx => h x (by simp [addends, hx]))
      refine ⟨fun _ => ?_, fun hh => (by cases hh)⟩
      simp only [sumChildren, addends, Bop.isAddSub', if_true]
      cases hla : l.isAddSub <;> cases hra : r.isAddSub
      · rw [(hl.2 hla).1, (hl.2 hla).2, (hr.2 hra).1, (hr.2 hra).2]; simp
      · rw [(hl.2 hla).1, (hl.2 hla).2, hr.1 hra]; simp
      · rw [hl.1 hla, (hr.2 hra).1, (hr.2 hra).2]; simp
      · rw [hl.1 hla, hr.1 hra]; simp
    · have hlv : addends (.bin t o l r) = [.bin t o l r] := by
        cases o with
        | add => exact absurd rfl ho
        | _ => rfl
      have ha := h (.bin t o l r) (by rw [hlv]; simp)
      exact ⟨fun hh => (by rw [ha.1] at hh; cases hh), fun _ => ⟨ha.2, hlv⟩⟩
  | _ => intro h; exact ⟨fun hh => (by cases hh), fun _ => ⟨(h _ (by simp [addends])).2, rfl⟩⟩

theorem item_atom (it : PItem) : Atom (itemTree it) := by
  cases it with
  | num n => exact ⟨rfl, rfl⟩
  | term coef v pow => cases coef <;> cases pow <;> exact ⟨rfl, rfl⟩

theorem item_key (coef : Option PNum) (v : Char) (pow : Option (List Char)) :
    getTermKey (itemTree (.term coef v pow)) = some ⟨[v], pow.map litVal⟩ := by
  cases coef <;> cases pow <;> rfl

theorem likePair_iff (items : List PItem) :
    (items.zipIdx.any fun a => items.zipIdx.any fun b => a.2 < b.2 && a.1.key.isSome && a.1.key == b.1.key) = true ↔
      ∃ l c1 c2 v pw m r, items = l ++ PItem.term c1 v pw :: (m ++ PItem.term c2 v pw :: r) := by
  constructor
  · intro h
    obtain ⟨⟨a, i⟩, ha, h⟩ := List.any_eq_true.1 h
    obtain ⟨⟨b, j⟩, hb, h⟩ := List.any_eq_true.1 h
    obtain ⟨⟨hlt, hsome⟩, hkey⟩ := Bool.and_eq_true_iff.1 h |>.imp_left Bool.and_eq_true_iff.1
    obtain ⟨l, m, r, hsplit, -, -⟩ := exists_split (of_decide_eq_true hlt)
      (List.mem_zipIdx_iff_getElem?.1 ha) (List.mem_zipIdx_iff_getElem?.1 hb)
    cases a with
    | num n => cases hsome
    | term c1 v pw =>
      cases b with
      | num n => cases (eq_of_beq hkey)
      | term c2 v' pw' =>
        obtain ⟨rfl, rfl⟩ := Prod.mk.inj (Option.some.inj (eq_of_beq hkey))
        exact ⟨l, c1, c2, v, pw, m, r, hsplit⟩
  · rintro ⟨l, c1, c2, v, pw, m, r, rfl⟩
    obtain ⟨h1, h2⟩ := getElem?_split l m r (PItem.term c1 v pw) (.term c2 v pw)
    refine List.any_eq_true.2 ⟨(_, _), List.mem_zipIdx_iff_getElem?.2 h1,
      List.any_eq_true.2 ⟨(_, _), List.mem_zipIdx_iff_getElem?.2 h2, ?_⟩⟩
    exact Bool.and_eq_true_iff.2 ⟨Bool.and_eq_true_iff.2 ⟨decide_eq_true (by omega), rfl⟩, beq_self_eq_true _⟩

theorem promisesLike_iff (p : FlatProblem) : p.promisesLike = true ↔
    (p.rest.all fun q => q.1 == .plus) = true ∧
      ∃ l c1 c2 v pw m r, p.items = l ++ PItem.term c1 v pw :: (m ++ PItem.term c2 v pw :: r) :=
  Bool.and_eq_true_iff.trans (and_congr_right fun _ => likePair_iff p.items)

theorem flat_like (p : FlatProblem) (hl : p.promisesLike = true) (e : Ex)
    (hitems : addends e = p.items.map itemTree) : hasLikeTerms e = true := by
  obtain ⟨-, l, c1, c2, v, pw, m, r, hsplit⟩ := (promisesLike_iff p).1 hl
  have hatoms : ∀ x ∈ addends e, Atom x := by
    rw [hitems]; exact List.forall_mem_map.2 fun it _ => item_atom it
  rw [hsplit, List.map_append, List.map_cons, List.map_append, List.map_cons] at hitems
  have hsl := sum_addends e hatoms
  -- at least two addends, so `e` is a sum
  have hadd : e.isAddSub = true := by
    cases hh : e.isAddSub with
    | true => rfl
    | false =>
      have := congrArg List.length (hsl.2 hh).2
      rw [hitems] at this
      simp only [List.length_append, List.length_cons, List.length_nil] at this
      omega
  unfold hasLikeTerms
  rw [getTerms_of_isAddSub hadd, hsl.1 hadd, hitems, Bool.or_eq_true]
  left
  -- the key `⟨[v], pw.map litVal⟩` stands at two positions of the list
  rw [hasDup_iff, List.filterMap_append, List.filterMap_cons, item_key, List.filterMap_append,
    List.filterMap_cons, item_key]
  intro hnd
  exact (List.nodup_cons.1 (List.nodup_append.1 hnd).2.1).1 (List.mem_append_right _ (List.mem_cons_self ..))

theorem binomial_derivation (p : BinomialProblem) (h : p.ok = true) : ∃ e, AddE p.toks e := by
  cases p with
  | timesBinomial a b c d =>
    simp only [BinomialProblem.ok, Bool.and_eq_true] at h
    obtain ⟨⟨⟨ha, hb⟩, hc⟩, hd⟩ := h
    obtain ⟨e1, h1, -⟩ := paren_prim [(.plus, a), (.plus, b)] (List.cons_ne_nil _ _) (by simp [ha, hb])
    obtain ⟨e2, h2, -⟩ := paren_prim [(.plus, c), (.plus, d)] (List.cons_ne_nil _ _) (by simp [hc, hd])
    have hf := Factors.plain (PrimSeq.cons h1 (PrimSeq.one h2))
    refine ⟨product e1 [e2], ?_⟩
    have := mult_add (exp_mult (.unary (.factors hf)))
    simpa [BinomialProblem.toks, plainRest, POpr.tok, plusTok, List.append_assoc] using this
  | timesMonomial a b c =>
    simp only [BinomialProblem.ok, Bool.and_eq_true] at h
    obtain ⟨⟨ha, hb⟩, hc⟩ := h
    obtain ⟨e1, h1, -⟩ := paren_prim [(.plus, a), (.plus, b)] (List.cons_ne_nil _ _) (by simp [ha, hb])
    have hm := MultE.mk (.unary (prim_unary h1))
      (MultLoop.mul ⟨.multiply, ['*']⟩ rfl (exp_mult (item_exp c hc)))
    refine ⟨.bin 0 .mul e1 (itemTree c), ?_⟩
    have := mult_add hm
    simpa [BinomialProblem.toks, plainRest, POpr.tok, plusTok, List.append_assoc] using this

end Prob
end Mathy
