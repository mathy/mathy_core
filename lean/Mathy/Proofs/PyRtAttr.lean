import Lean.Meta.Tactic.Simp.RegisterCommand

/-- evaluation of translated Python at a located node: the lemmas of `Proofs/PyRtLemmas.lean`,
`get_term_ex_agree`, and `Option` / `Bool` / `if` housekeeping -/
register_simp_attr pyrt

/-- for an operand taken apart to a constructor: the model's shape tests on it, and a successful conjunction of tests split -/
register_simp_attr exshape

/-- a translated computation whose head is known takes its step: `Except.bind` on `.ok` / `.error`, `if` on a decided test,
`Option` / `Bool` on constants; nothing that regroups or copies text (`bind_bind`, `bind_ite` are named at the step) -/
register_simp_attr pyflow
