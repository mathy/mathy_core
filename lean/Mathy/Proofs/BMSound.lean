/-
Soundness of balanced move (`HoldsRefines`): where the original equation holds, or fails, so does the
rewritten one.
-/
import Mathy.Proofs.Eval
import Mathy.Proofs.Arr
namespace Mathy

/-- sum of the siblings hanging off an all-addition context -/
def ctxSum (env : Env) : Ctx → Res
  | [] => .ok 0
  | .binL _ _ r :: fs => Res.bin .add (eval env r) (ctxSum env fs)
  | .binR _ _ l :: fs => Res.bin .add (eval env l) (ctxSum env fs)
  | .un _ _ :: fs => ctxSum env fs

theorem eval_plug_allAdd (env : Env) (k : Ctx) (e : Ex) (h : allAdd k = true) :
    eval env (plug k e) = Res.bin .add (eval env e) (ctxSum env k) := by
  induction k generalizing e with
  | nil => exact (res_add_zero _).symm
  | cons f fs ih =>
    obtain ⟨hf, hfs⟩ := allAdd_cons.mp h
    cases f with
    | binL t o r | binR t o r =>
      cases beq_iff_eq.mp hf
      rw [plug, ih _ hfs]
      simp only [Frame.fill, eval, ctxSum]
      ac_rfl
    | un t o => cases hf

theorem eval_plug_removeAddend (env : Env) {inner inner' : Ctx} {sib : Ex}
    (h : removeAddend inner = some (inner', sib)) (ha : allAdd inner = true) (n : Ex) :
    eval env (plug inner n) = Res.bin .add (eval env n) (eval env (plug inner' sib)) := by
  obtain ⟨t, o, rfl | rfl⟩ := removeAddend_inv h
  all_goals
    rw [eval_plug_allAdd env _ _ ha, eval_plug_allAdd env _ _ (allAdd_cons.mp ha).2]
    rfl

theorem r_bm_div (S R : Res) (v : Rat) (hv : v ≠ 0) :
    RHolds (Res.bin .eq S R) (Res.bin .eq (Res.bin .div S (.ok v)) (Res.bin .div R (.ok v))) := by
  rcases S with e | s <;> rcases R with e' | r <;> simp only [Res.bin, evalBop, hv, if_false]
  case ok.ok => exact rholds_eq_ok (div_left_inj' hv).symm
  -- a side that has failed fails its quotient alike: the equation is unchanged
  all_goals exact RHolds.refl _

theorem r_bm_add_l (N T R : Res) :
    RHolds (Res.bin .eq (Res.bin .add N T) R) (Res.bin .eq T (Res.bin .sub R N)) := by
  rcases N with eN | n <;> rcases T with eT | s <;> rcases R with eR | r
  case ok.ok.ok => exact rholds_eq_ok eq_sub_iff_add_eq'.symm
  -- an operand has failed: both equations fail, and the same failures are joined in both
  all_goals
    simp only [Res.bin, evalBop, Bad.worse_comm, Bad.worse_left_comm]
    exact RHolds.refl _

theorem r_bm_add_r (N T L : Res) :
    RHolds (Res.bin .eq L (Res.bin .add N T)) (Res.bin .eq (Res.bin .sub L N) T) := by
  rw [res_eq_comm, res_eq_comm (Res.bin .sub L N)]
  exact r_bm_add_l N T L

theorem bmApply_sound {k k' : Ctx} {n n' : Ex}
    (h : bmApply k n = .ok (k', n')) : HoldsRefines (plug k n) (plug k' n') := by
  obtain ⟨rfl, ty, inner, rootF, d⟩ := bmApply_inv h
  have ht := bmType_inv d.type d.split
  rw [plug_splitRoot d.split]
  intro env
  cases d.arr with
  | divL | divR =>
    cases beq_iff_eq.mp ht.root
    obtain ⟨t, v, rfl, hv⟩ := ht.divisor rfl
    simp only [plug, Frame.fill, eval, eval_clone]
    exact r_bm_div _ _ _ hv
  | subL hrem =>
    cases beq_iff_eq.mp ht.root
    simp only [plug, Frame.fill, eval, eval_clone, eval_plug_removeAddend env hrem (ht.allAdd rfl)]
    exact r_bm_add_l _ _ _
  | subR hrem =>
    cases beq_iff_eq.mp ht.root
    simp only [plug, Frame.fill, eval, eval_clone, eval_plug_removeAddend env hrem (ht.allAdd rfl)]
    exact r_bm_add_r _ _ _

end Mathy
