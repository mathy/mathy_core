/-
The model's parser IS the repository's parser (translated source): `_parse` around `parse_equal`
(`parse_agree`; its trailing loop collects the text left over, and the model asks whether the rest
starts with the end marker), that what the tokenizer produces satisfies the invariant `Good` of
the agreement (`tokenize_good`), and from the two the statement for text (`parseText_agree`).
-/
import Mathy.Proofs.PySrcAgreeParse4
import Mathy.Proofs.ParserFuel
namespace Mathy.SrcAgree
open Mathy.Py Mathy.Gen.Src

/-- the loop appends the texts of the tokens up to the end marker: nothing exactly when the parser
stopped at the end marker -/
theorem trail (toks : List Token) (e : Ex) : ∀ (rest : List Tok), Good rest → ∀ (lo : List Char) (fuel : Nat),
    rest.length < fuel →
    ∃ lo' st', ExpressionParser__parse_while1 fuel (stOf rest) toks e lo = .ok (lo ++ lo', st') ∧
      (lo' = [] ↔ headType rest = .eof) := by
  intro rest
  induction rest with
  | nil => intro h; exact absurd rfl h.wf.ne_nil
  | cons t r ih =>
    intro hg lo fuel hf
    obtain ⟨k, rfl⟩ : ∃ k, fuel = k + 1 := ⟨fuel - 1, by simp only [List.length_cons] at hf; omega⟩
    rw [ExpressionParser__parse_while1]
    simp only [cur_type, cur_value, tt_consts, tyBits_bne, headType_cons, hd_cons]
    by_cases hte : t.type = .eof
    · exact ⟨[], stOf (t :: r), by simp [hte], by simp [hte]⟩
    · obtain ⟨lo', st', h, -⟩ := ih (hg.tail hte) (lo ++ t.value) k (by simp only [List.length_cons] at hf; omega)
      refine ⟨t.value ++ lo', st', ?_, by simp [hte, (hg.ok t (by simp)).2 hte]⟩
      simp only [pyflow, bne_iff_ne, ne_eq, hte, not_false_eq_true, next_cons hg.wf hte, h, List.append_assoc]

theorem parse_sim (st : ParserState) (ts : List Tok) (hg : Good ts) :
    Sim (fun e (b : Ex × ParserState) => b.1 = e) (parseToks ts)
      (ExpressionParser__parse st (ts.map tokToPy)) := by
  obtain ⟨t, r, rfl⟩ := List.exists_cons_of_ne_nil hg.wf.ne_nil
  rw [parseToks_eq, ExpressionParser__parse, next_start, bind_ok]
  simp only [Bool.not_not, List.length_map]
  refine .ite (fun _ => .error _) fun _ => ?_
  -- the translator's literal `8 * len + 17` is the model's `parseFuel` and the one unit more of `Agree`
  refine ((agree_all (parseFuel (t :: r))).equal _ hg).bind_rel fun e rest hgr => ?_
  have hlen : (stOf rest).tokens.length + 2 = rest.length + 1 := by
    obtain ⟨x, xs, rfl⟩ := List.exists_cons_of_ne_nil hgr.wf.ne_nil
    simp only [stOf, List.tail_cons, List.length_map, List.length_cons]
  obtain ⟨lo', st', h, hlo⟩ := trail ((t :: r).map tokToPy) e rest hgr [] _ (Nat.lt_succ_self _)
  simp only [pyflow, hlen, h, List.nil_append]
  by_cases hre : headType rest = .eof
  · rw [if_pos (beq_iff_eq.2 hre), hlo.2 hre]
    exact .ok rfl
  · rw [if_neg (mt beq_iff_eq.1 hre), if_pos (bne_iff_ne.2 (mt hlo.1 hre))]
    exact .error _

theorem parse_agree (st : ParserState) (ts : List Tok) (hg : Good ts) :
    (ExpressionParser__parse st (ts.map tokToPy)).map Prod.fst =
      match parseToks ts with
      | .ok e => .ok e
      | .error k => .error (errOf k) := by
  have h := parse_sim st ts hg
  cases hm : parseToks ts with
  | error k =>
    rw [hm] at h
    rw [h.of_error fun hk => parseToks_ne_fuel ts (hk ▸ hm)]
    rfl
  | ok e =>
    rw [hm] at h
    obtain ⟨b, hb, rfl⟩ := h.of_ok
    rw [hb]
    rfl

theorem alphaToks_ok (run : List Char) (hne : run ≠ []) : TokOK (alphaToks run) := by
  unfold alphaToks
  split_ifs with hc
  · intro t ht
    obtain rfl := List.mem_singleton.1 ht
    obtain rfl : run = "sgn".toList := by simpa [functionNames] using hc
    exact ⟨fun _ => rfl, fun _ => hne⟩
  · intro t ht
    obtain ⟨c, _, rfl⟩ := List.mem_map.1 ht
    exact ⟨nofun, fun _ => List.cons_ne_nil _ _⟩

theorem tokBody_ok (pad : Bool) (s : List Char) : ∀ ts, tokBody pad s = .ok ts → TokOK ts :=
  tokBody_forall (fun _ h => ⟨nofun, fun _ => h⟩) alphaToks_ok (by decide) pad s

theorem tokenize_good (pad : Bool) (s : List Char) (ts : List Tok) (h : tokenize pad s = .ok ts) : Good ts := by
  rw [tokenize_eq, map_eq_ok_iff] at h
  obtain ⟨body, hb, rfl⟩ := h
  refine ⟨⟨body, ⟨.eof, []⟩, rfl, rfl⟩, fun t ht => ?_⟩
  rcases List.mem_append.1 ht with ht | ht
  · exact tokBody_ok pad s body hb t ht
  · obtain rfl := List.mem_singleton.1 ht
    exact ⟨nofun, fun hne => absurd rfl hne⟩

/-- the translated `ExpressionParser().parse(text)`: `Tokenizer(exclude_padding=True).tokenize`, then `_parse` -/
def srcParseText (st : ParserState) (s : List Char) : Except PyErr Ex :=
  match Tokenizer_tokenize true s with
  | .error e => .error e
  | .ok toks => (ExpressionParser__parse st toks).map Prod.fst

/-- the answer of `ExpressionParser().parse(s)`, tree or exception, that stands for an answer of `parseText s` -/
def outcomeOf (s : List Char) : ParseOut → Except PyErr Ex
  | .tree e => .ok e
  | .perr k => .error (errOf k)
  | .badChar c => .error (.ValueError (invalidTokenMsg c s))

theorem parseText_agree (st : ParserState) (s : List Char) :
    srcParseText st s = outcomeOf s (parseText s) := by
  unfold srcParseText parseText
  rw [tokenize_agree]
  simp only [Bool.not_true]
  cases ht : tokenize false s with
  | error c => rfl
  | ok ts =>
    have hg := tokenize_good false s ts ht
    dsimp only
    rw [parse_agree st ts hg]
    cases parseToks ts <;> rfl

end Mathy.SrcAgree
