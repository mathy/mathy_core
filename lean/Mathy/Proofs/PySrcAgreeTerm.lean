/-
`util.get_term_ex` as translated from the live source (`Gen/PySrcUtil.lean`) equals its specification
`Ref.get_term_ex` (Model/PyRt.lean): the model's `getTermEx`, with `isinstance(node.parent, PowerExpression)`
read off the position.  The class tests look at most two levels below the node and, at a leaf, at
the frame above it; on every shape fixed that far both sides compute.
-/
import Mathy.Gen.PySrcUtil
import Mathy.Proofs.PyRtAttr
namespace Mathy.SrcAgree
open Mathy.Py Mathy.Gen.Src

theorem gte_leaf (k : Ctx) (e : Ex) (he : e.isLeaf = true) :
    get_term_ex (some ⟨k, e⟩) = Ref.get_term_ex (some ⟨k, e⟩) := by
  cases e with
  | un | bin => cases he
  | const | var =>
    cases k with
    | nil => rfl
    | cons f k' =>
      cases f with
      | binL ft o r => cases o <;> rfl
      | binR ft o l => cases o <;> rfl
      | un ft o => cases o <;> rfl

theorem gte_un (k : Ctx) (t : Nat) (o : Uop) (c : Ex) :
    get_term_ex (some ⟨k, .un t o c⟩) = Ref.get_term_ex (some ⟨k, .un t o c⟩) := by
  cases o with
  | neg =>
    cases c with
    | bin ct co cl cr =>
      cases co with
      | pow =>
        cases cl with
        | var => cases cr <;> rfl
        | _ => rfl
      | _ => rfl
    | _ => rfl
  | _ => rfl

theorem gte_bin (k : Ctx) (t : Nat) (o : Bop) (l r : Ex) :
    get_term_ex (some ⟨k, .bin t o l r⟩) = Ref.get_term_ex (some ⟨k, .bin t o l r⟩) := by
  cases o with
  | mul =>
    cases l with
    | const =>
      cases r with
      | bin rt ro rl rr =>
        cases ro with
        | pow =>
          cases rl with
          | var => cases rr <;> rfl
          | _ => rfl
        | _ => rfl
      | _ => rfl
    | _ => cases r <;> rfl
  | pow =>
    cases l with
    | var => cases r <;> rfl
    | _ => rfl
  | _ => cases l <;> cases r <;> rfl

@[pyrt] theorem get_term_ex_agree (r : Ref) : get_term_ex r = Ref.get_term_ex r := by
  rcases r with _ | ⟨k, e⟩
  · rfl
  · rcases e with ⟨t, v⟩ | ⟨t, x⟩ | ⟨t, o, c⟩ | ⟨t, o, l, r⟩
    · exact gte_leaf k _ rfl
    · exact gte_leaf k _ rfl
    · exact gte_un k t o c
    · exact gte_bin k t o l r

end Mathy.SrcAgree
