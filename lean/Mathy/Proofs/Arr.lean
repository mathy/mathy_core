/-
The arrangements of the rules.  For every step function and every `apply` of `Model/Rules.lean`
one inversion lemma: it says which shape the node has and which shape replaces it, over abstract
sub-trees (an inductive relation with one constructor per arrangement).  Where an `apply` also reads
terms or a root frame off the tree, its inversion yields a structure whose fields name what was found
(`DFApplied`, `VMApplied`, `BMApplied`).  Soundness, structure, root kind and printability are each a
`cases` on the arrangement.
-/
import Mathy.Proofs.CtxLemmas
import Mathy.Proofs.UtilLemmas
namespace Mathy

theorem termWithVar_some {e : Ex} {t : TermEx} (h : termWithVar e = some t) :
    getTermEx false e = some t := by
  unfold termWithVar at h
  split at h
  next ht =>
    split at h <;> cases h
    exact ht
  next => cases h

inductive ASArr : Ctx → Ex → Ctx → Ex → Prop
  | left {pt po c k' nt no a b} :
      ASArr (.binL pt po c :: k') (.bin nt no a b) k' (.bin nt no a (.bin pt po b c))
  | right {pt po a k' nt no b c} :
      ASArr (.binR pt po a :: k') (.bin nt no b c) k' (.bin nt no (.bin pt po a b) c)

theorem asApply_inv {k k' : Ctx} {n n' : Ex} (h : asApply k n = .ok (k', n')) : ASArr k n k' n' := by
  unfold asApply at h
  split at h <;> cases h <;> constructor

/-- The same step seen at the parent, where the classifier has made both operators the same `+` or `*`. -/
inductive ASRot : Ex → Ex → Prop
  | left {pt nt o a b c} : o = .add ∨ o = .mul →
      ASRot (.bin pt o (.bin nt o a b) c) (.bin nt o a (.bin pt o b c))
  | right {pt nt o a b c} : o = .add ∨ o = .mul →
      ASRot (.bin pt o a (.bin nt o b c)) (.bin nt o (.bin pt o a b) c)

theorem asCan_bin {f : Frame} {k : Ctx} {t : Nat} {o : Bop} {a b : Ex}
    (hc : asCan (f :: k) (.bin t o a b) = true) : f.isOp o = true ∧ (o = .add ∨ o = .mul) := by
  simp only [asCan, parentIs_cons, Ex.isOp, Bool.or_eq_true, Bool.and_eq_true, beq_iff_eq] at hc
  obtain ⟨hf, rfl⟩ | ⟨hf, rfl⟩ := hc
  · exact ⟨hf, .inl rfl⟩
  · exact ⟨hf, .inr rfl⟩

theorem ASArr.rot {k k' : Ctx} {n n' : Ex} (h : ASArr k n k' n') (hc : asCan k n = true) :
    ∃ f, k = f :: k' ∧ ASRot (f.fill n) n' := by
  cases h with
  | left =>
    obtain ⟨hf, ho⟩ := asCan_bin hc
    cases beq_iff_eq.mp hf
    exact ⟨_, rfl, .left ho⟩
  | right =>
    obtain ⟨hf, ho⟩ := asCan_bin hc
    cases beq_iff_eq.mp hf
    exact ⟨_, rfl, .right ho⟩

theorem asApply_total {k : Ctx} {n : Ex} (hc : asCan k n = true) : ∃ res, asApply k n = .ok res := by
  cases n with
  | bin nt no a b =>
    cases k with
    | nil => cases hc
    | cons f k' =>
      cases f with
      | binL | binR => exact ⟨_, rfl⟩
      | un => cases hc
  | _ => simp [asCan, Ex.isOp] at hc

inductive CSArr : Ex → Ex → Prop
  | swap {t o a b} : CSArr (.bin t o a b) (.bin t o b a)
  | chain {t t' o a1 a2 b} : o = .add ∨ o = .mul →
      CSArr (.bin t o (.bin t' o a1 a2) b) (.bin t o (.bin t' o a1 b) a2)

theorem csApply_inv {k k' : Ctx} {n n' : Ex} (h : csApply k n = .ok (k', n')) :
    k' = k ∧ CSArr n n' := by
  unfold csApply at h
  repeat' (split at h)
  all_goals obtain ⟨⟩ := h
  case isTrue ho =>
    simp only [Bool.or_eq_true, Bool.and_eq_true, beq_iff_eq] at ho
    obtain ⟨rfl, rfl⟩ | ⟨rfl, rfl⟩ := ho
    · exact ⟨rfl, .chain (.inl rfl)⟩
    · exact ⟨rfl, .chain (.inr rfl)⟩
  all_goals exact ⟨rfl, .swap⟩

theorem csApply_swap (k : Ctx) (t : Nat) (o : Bop) (a b : Ex) (ha : a.isOp o = false) :
    csApply k (.bin t o a b) = .ok (k, .bin t o b a) := by
  cases a with
  | bin _ ao _ _ => cases o <;> cases ao <;> cases ha <;> rfl
  | _ => cases o <;> rfl

/-- One constructor per `CAType`; `+` and `*` share the chained constructors.  A relation keeps a test of its
step function only where `kind`, `evalEq`, `localOk` or `repl` needs it (`o ≠ .eq` here; no sign test in `RSArr`),
so it holds of more than the steps the function makes. -/
inductive CAArr : Ex → Ex → Prop
  | simple {t ta tb o a b v} : o ≠ .eq → evalBop o a b = .ok v →
      CAArr (.bin t o (.const ta a) (.const tb b)) (.const 0 v)
  | negationSimple {t t' ta tb o a b v} : Res.un .neg (evalBop o a b) = .ok v →
      CAArr (.un t .neg (.bin t' o (.const ta a) (.const tb b))) (.const 0 v)
  | simpleVarMult {t t' ta tb tx a b x} :
      CAArr (.bin t .mul (.bin t' .mul (.const ta a) (.var tx x)) (.const tb b))
        (.bin 0 .mul (.const 0 (a * b)) (.var tx x))
  | chainedRightDeep {t t1 t2 ta tb o a b v rlr rr} : o = .add ∨ o = .mul → evalBop o a b = .ok v →
      CAArr (.bin t o (.const ta a) (.bin t1 o (.bin t2 o (.const tb b) rlr) rr))
        (.bin 0 o (.bin 0 o (.const 0 v) rlr) rr)
  | chainedRight {t t1 ta tb o a b v rr} : o = .add ∨ o = .mul → evalBop o a b = .ok v →
      CAArr (.bin t o (.const ta a) (.bin t1 o (.const tb b) rr)) (.bin 0 o (.const 0 v) rr)
  | chainedRightLeft {t t1 t2 ta tb a b lr rr} :
      CAArr (.bin t .mul (.bin t1 .mul (.const ta a) lr) (.bin t2 .mul (.const tb b) rr))
        (.bin 0 .mul (.bin 0 .mul (.const 0 (a * b)) lr) rr)
  | chainedRightLeftLeft {t t1 t2 t3 ta tb a b lr rlr rr} :
      CAArr (.bin t .mul (.bin t1 .mul (.const ta a) lr) (.bin t2 .mul (.bin t3 .mul (.const tb b) rlr) rr))
        (.bin 0 .mul (.bin 0 .mul (.const 0 (a * b)) lr) (.bin 0 .mul rlr rr))
  | chainedLeftLeftRight {t t1 t2 t3 ta tb a b ll lrr rr} :
      CAArr (.bin t .mul (.bin t1 .mul ll (.bin t2 .mul (.const ta a) lrr)) (.bin t3 .mul (.const tb b) rr))
        (.bin 0 .mul ll (.bin 0 .mul (.bin 0 .mul (.const 0 (a * b)) lrr) rr))

theorem foldConst_arr {n : Ex} {r : Res} {b : Bool} (h : ∀ {v}, r = .ok v → CAArr n (.const 0 v)) :
    match foldConst r b with
    | .ok n' => CAArr n n'
    | .error e => e = .nonFinite ∨ e = .outOfDomain := by
  rcases r with e | v
  · cases b <;> simp [foldConst]
  · exact h rfl

/- `generalizing := false`: by default the hypothesis `h`, which mentions `r`, is carried into the
match of the statement (`match r, h with …`). -/
theorem caStep_arr {n : Ex} {ty : CAType} {r : Except RErr Ex} (h : caStep n = some (ty, r)) :
    match (generalizing := false) r with
    | .ok n' => CAArr n n'
    | .error e => e = .nonFinite ∨ e = .outOfDomain := by
  unfold caStep at h
  repeat' (split at h)
  -- `cases ty` before `h` is taken apart: the goal of each arm then carries the name of the arrangement
  -- the arm returns; an arm that returns `none`, or another arrangement, goes with `h`
  all_goals cases ty
  all_goals obtain ⟨⟩ := h
  case negationSimple => exact foldConst_arr fun hv => .negationSimple hv
  case simple ho => exact foldConst_arr fun hv => .simple (by simpa using ho) hv
  case simpleVarMult => exact .simpleVarMult
  case chainedRightDeep ho | chainedRightDeep ho =>
    simp only [Bool.and_eq_true, beq_iff_eq] at ho
    obtain ⟨⟨rfl, rfl⟩, rfl⟩ := ho
    exact .chainedRightDeep (by decide) rfl
  case chainedRight ho | chainedRight ho =>
    simp only [Bool.and_eq_true, beq_iff_eq] at ho
    obtain ⟨rfl, rfl⟩ := ho
    exact .chainedRight (by decide) rfl
  case chainedRightLeft => exact .chainedRightLeft
  case chainedRightLeftLeft => exact .chainedRightLeftLeft
  case chainedLeftLeftRight => exact .chainedLeftLeftRight

theorem caApply_inv {k k' : Ctx} {n n' : Ex} (h : caApply k n = .ok (k', n')) :
    k' = k ∧ CAArr n n' := by
  unfold caApply at h
  split at h <;> cases h
  exact ⟨rfl, caStep_arr ‹_›⟩

theorem applyRule_constants_simple (k : Ctx) (t t1 t2 : Nat) {o : Bop} {a b v : Rat} (ho : o ≠ .eq)
    (hv : evalBop o a b = .ok v) :
    applyRule .constants k (.bin t o (.const t1 a) (.const t2 b)) = .ok (k, .const 0 v) := by
  simp [applyRule, caApply, caStep, foldConst, ho, hv]

/-- The sum `n`, its two term nodes, and the context of kept children (all new nodes) around
the place where the factored product goes. -/
inductive DFArr : Ex → Ex → Ex → Ctx → Prop
  | simple {t l r} : DFArr (.bin t .add l r) l r []
  | chainedBoth {t t1 t2 ll lr rl rr} :
      DFArr (.bin t .add (.bin t1 .add ll lr) (.bin t2 .add rl rr)) lr rl [.binR 0 .add ll, .binL 0 .add rr]
  | chainedRight {t t1 l rl rr} : DFArr (.bin t .add l (.bin t1 .add rl rr)) l rl [.binL 0 .add rr]
  | chainedRightLeft {t t1 t2 l rll rlr rr} :
      DFArr (.bin t .add l (.bin t1 .add (.bin t2 .add rll rlr) rr)) l rll [.binL 0 .add (.bin 0 .add rlr rr)]
  | chainedLeft {t t1 ll lr r} : DFArr (.bin t .add (.bin t1 .add ll lr) r) lr r [.binR 0 .add ll]
  | chainedLeftRight {t t1 t2 ll lrl lrr r} :
      DFArr (.bin t .add (.bin t1 .add ll (.bin t2 .add lrl lrr)) r) lrr r [.binR 0 .add (.bin 0 .add ll lrl)]

theorem dfStep_arr {n ln rn : Ex} {ty : DFType} {lt rt : TermEx} {wrap : Ex → Ex}
    (h : dfStep n = some (ty, (ln, lt), (rn, rt), wrap)) :
    getTermEx false ln = some lt ∧ getTermEx false rn = some rt ∧
      ∃ kw, DFArr n ln rn kw ∧ wrap = plug kw := by
  unfold dfStep at h
  repeat' (split at h)
  -- `cases ty` first, as in `caStep_arr`
  all_goals cases ty
  all_goals obtain ⟨⟩ := h
  case chainedBoth => exact ⟨termWithVar_some ‹_›, termWithVar_some ‹_›, _, .chainedBoth, rfl⟩
  case simple => exact ⟨‹_›, ‹_›, _, .simple, rfl⟩
  case chainedRight => exact ⟨‹_›, ‹_›, _, .chainedRight, rfl⟩
  case chainedRightLeft => exact ⟨‹_›, termWithVar_some ‹_›, _, .chainedRightLeft, rfl⟩
  case chainedLeft => exact ⟨‹_›, ‹_›, _, .chainedLeft, rfl⟩
  case chainedLeftRight => exact ⟨termWithVar_some ‹_›, ‹_›, _, .chainedLeftRight, rfl⟩

theorem dfStep_simple (t : Nat) {l r : Ex} {lt rt : TermEx} (hl : TermShape false l lt)
    (hr : TermShape false r rt) :
    dfStep (.bin t .add l r) = some (.simple, (l, lt), (r, rt), fun core => core) := by
  simp only [dfStep, getTermEx_of_shape hl, getTermEx_of_shape hr]

theorem dfCan_inv {cs : Bool} {n : Ex} (hc : dfCan cs n = true) :
    ∃ ty ln lt rn rt wrap f, dfStep n = some (ty, (ln, lt), (rn, rt), wrap) ∧
      factorAddTermsEx lt rt = some f := by
  unfold dfCan at hc
  cases hs : dfStep n with
  | none =>
    rw [hs] at hc
    cases hc
  | some s =>
    obtain ⟨ty, ⟨ln, lt⟩, ⟨rn, rt⟩, wrap⟩ := s
    cases hf : factorAddTermsEx lt rt with
    | none => simp [hs, dfFactorOk, hf] at hc
    | some f => exact ⟨ty, ln, lt, rn, rt, wrap, f, rfl, hf⟩

/-- How `dfCore lt rt` builds `core` from the factoring `f`: common part `a`, remainders `b` and `c`. -/
structure DFFactored (lt rt : TermEx) (core : Ex) (f : FactorResult) (a b c : Ex) : Prop where
  factor : factorAddTermsEx lt rt = some f
  common : makeTerm f.best f.comVar f.comExp = some a
  left : makeTerm f.left f.leftVar f.leftExp = some b
  right : makeTerm f.right f.rightVar f.rightExp = some c
  result : core = .bin 0 .mul (.bin 0 .add b c) a

theorem dfCore_inv {lt rt : TermEx} {core : Ex} (h : dfCore lt rt = some core) :
    ∃ f a b c, DFFactored lt rt core f a b c := by
  unfold dfCore at h
  repeat' (split at h)
  all_goals cases h
  exact ⟨_, _, _, _, ‹_›, ‹_›, ‹_›, ‹_›, rfl⟩

/-- What `dfApply` at `n` has found (the two term nodes, their terms, the kept context) and what it returns. -/
structure DFApplied (n n' ln rn : Ex) (lt rt : TermEx) (kw : Ctx) (core : Ex) : Prop where
  arr : DFArr n ln rn kw
  left : getTermEx false ln = some lt
  right : getTermEx false rn = some rt
  factored : dfCore lt rt = some core
  result : n' = plug kw core

theorem dfApply_inv {k k' : Ctx} {n n' : Ex} (h : dfApply k n = .ok (k', n')) :
    k' = k ∧ ∃ ln rn lt rt kw core, DFApplied n n' ln rn lt rt kw core := by
  unfold dfApply at h
  repeat' (split at h)
  all_goals cases h
  obtain ⟨left, right, kw, arr, rfl⟩ := dfStep_arr ‹_›
  exact ⟨rfl, _, _, _, _, kw, _, { arr, left, right, factored := ‹_›, result := rfl }⟩

inductive DMArr : Ex → Ex → Prop
  | left {t t' a b c} : DMArr (.bin t .mul (.bin t' .add b c) a) (dmBuild a b c)
  | right {t t' a b c} : DMArr (.bin t .mul a (.bin t' .add b c)) (dmBuild a b c)

theorem dmApply_inv {k k' : Ctx} {n n' : Ex} (h : dmApply k n = .ok (k', n')) :
    k' = k ∧ DMArr n n' := by
  unfold dmApply at h
  split at h <;> cases h <;> exact ⟨rfl, by constructor⟩

theorem dmApply_right (k : Ctx) (t t' : Nat) {a : Ex} (b c : Ex) (ha : a.isOp .add = false) :
    dmApply k (.bin t .mul a (.bin t' .add b c)) = .ok (k, dmBuild a b c) := by
  cases a with
  | bin _ o _ _ =>
    cases o
    case add => cases ha
    all_goals rfl
  | _ => rfl

inductive MIArr : Ex → Ex → Prop
  | neg {t t' l c} :
      MIArr (.bin t .div l (.un t' .neg c)) (.bin 0 .mul l.clone (.bin 0 .div (.const 0 (-1)) c.clone))
  | plain {t l r} : MIArr (.bin t .div l r) (.bin 0 .mul l.clone (.bin 0 .div (.const 0 1) r.clone))

theorem miApply_inv {k k' : Ctx} {n n' : Ex} (h : miApply k n = .ok (k', n')) :
    k' = k ∧ MIArr n n' := by
  unfold miApply at h
  split at h <;> cases h <;> exact ⟨rfl, by constructor⟩

theorem miApply_plain (k : Ctx) (t : Nat) (l : Ex) {r : Ex} (hr : r.isUn .neg = false) :
    miApply k (.bin t .div l r) = .ok (k, .bin 0 .mul l.clone (.bin 0 .div (.const 0 1) r.clone)) := by
  cases r with
  | un _ o _ =>
    cases o
    case neg => cases hr
    all_goals rfl
  | _ => rfl

/-- `addNegTerm` covers both term arrangements of `a + (-c)·t`. -/
inductive RSArr : Ex → Ex → Prop
  | subNegateVariable {t t' tx l x} :
      RSArr (.bin t .sub l (.un t' .neg (.var tx x))) (.bin 0 .add l (.var 0 x))
  | subNegativeConst {t tv l v} : RSArr (.bin t .sub l (.const tv v)) (.bin 0 .add l (.const 0 (v * -1)))
  | subtraction {t l r} : RSArr (.bin t .sub l r) (.bin 0 .add l (.un 0 .neg r))
  | subTermWithConst {t t' tv l v rr} :
      RSArr (.bin t .sub l (.bin t' .mul (.const tv v) rr))
        (.bin 0 .add l (.bin 0 .mul (.const 0 (v * -1)) rr.clone))
  | addNegConst {t tv l v} : RSArr (.bin t .add l (.const tv v)) (.bin 0 .sub l (.const 0 (-v)))
  | addNegTerm {t t' tv l v rr} :
      RSArr (.bin t .add l (.bin t' .mul (.const tv v) rr))
        (.bin 0 .sub l (.bin 0 .mul (.const 0 (-v)) rr.clone))

theorem rsStep_arr {k : Ctx} {n n' : Ex} {ty : RSType} (h : rsStep k n = some (ty, n')) :
    RSArr n n' := by
  unfold rsStep at h
  repeat' (split at h)
  all_goals cases h
  -- the shape of the result fits one constructor only
  all_goals constructor

theorem rsApply_inv {k k' : Ctx} {n n' : Ex} (h : rsApply k n = .ok (k', n')) :
    k' = k ∧ RSArr n n' := by
  unfold rsApply at h
  split at h <;> cases h
  exact ⟨rfl, rsStep_arr ‹_›⟩

/-- The product `n`, its two term nodes and the way the kept factor is re-attached. -/
inductive VMArr : Ex → Ex → Ex → (List Rat → Ex → Ex) → Prop
  | simple {t l r} : VMArr (.bin t .mul l r) l r vmWrapSimple
  | chained {t t' l rl keep} : VMArr (.bin t .mul l (.bin t' .mul rl keep)) l rl (vmWrapChained keep)
  | chainedLeftRight {t t' keep lr r} :
      VMArr (.bin t .mul (.bin t' .mul keep lr) r) lr r (vmWrapCLR keep)

theorem eq_some_of_not_isNone_of_not_bne {a b : Option Char} (ha : ¬ a.isNone = true)
    (hab : ¬ (a != b) = true) : ∃ x, a = some x ∧ b = some x := by
  cases a with
  | none => exact absurd rfl ha
  | some x => exact ⟨x, rfl, (by simpa using hab : some x = b).symm⟩

theorem vmStep_arr {n : Ex} {ty : VMType} {ln rn : Ex} {lt rt : TermEx} {wrap : List Rat → Ex → Ex}
    (h : vmStep n = some (ty, (ln, lt), (rn, rt), wrap)) :
    getTermEx false ln = some lt ∧ getTermEx false rn = some rt ∧
      (∃ x, lt.var = some x ∧ rt.var = some x) ∧ VMArr n ln rn wrap := by
  unfold vmStep at h
  split at h
  -- `h_2`, and `isFalse` below, is each time the arm that returns `none`
  case h_2 => cases h
  simp only at h
  split at h
  next hclr =>
    -- chained-left-right, `(keep * lr) * r` with `r` a product: as a term `r` has a variable
    cases h
    split at hclr
    case h_2 => cases hclr
    split at hclr
    case h_2 => cases hclr
    next hl hr =>
      split at hclr
      case isFalse => cases hclr
      next hv =>
        cases hclr
        obtain ⟨x, hx⟩ := getTermEx_mul_var hr
        exact ⟨hl, hr, ⟨x, (beq_iff_eq.mp hv).trans hx, hx⟩, .chainedLeftRight⟩
  next =>
    -- the two terms just matched have passed the tests `var is None` and `lt.var != rt.var`
    repeat' (split at h)
    all_goals cases ty
    all_goals obtain ⟨⟩ := h
    case simple => exact ⟨‹_›, ‹_›, eq_some_of_not_isNone_of_not_bne ‹_› ‹_›, .simple⟩
    case chained => exact ⟨‹_›, ‹_›, eq_some_of_not_isNone_of_not_bne ‹_› ‹_›, .chained⟩

theorem vmStep_simple (t : Nat) {l r : Ex} {lt rt : TermEx} {x : Char}
    (hl : TermShape false l lt) (hr : TermShape false r rt) (hm : l.isOp .mul = false)
    (hx : lt.var = some x) (hxr : rt.var = some x) :
    vmStep (.bin t .mul l r) = some (.simple, (l, lt), (r, rt), vmWrapSimple) := by
  simp only [vmStep, getTermEx_of_shape hl, getTermEx_of_shape hr]
  split
  next hclr =>
    -- chained-left-right is tried first, and asks for a product on the left
    split at hclr
    · cases hm
    · cases hclr
  next => simp [hx, hxr]

/-- the combined power `x^(a+b)` of `vmApply` (a `let` there) -/
def vmPower (x : Char) (lt rt : TermEx) : Ex :=
  .bin 0 .pow (.var 0 x) (.bin 0 .add (.const 0 (lt.exp.getD 1)) (.const 0 (rt.exp.getD 1)))

/-- so the wildcard arm of a `vmWrap*` is met at `[]` only -/
theorem vmCoefs_cases (lt rt : TermEx) :
    vmCoefs lt rt = [] ∨ (∃ a, vmCoefs lt rt = [a]) ∨ ∃ a b, vmCoefs lt rt = [a, b] := by
  unfold vmCoefs
  split <;> simp

/-- What `vmApply` at `n` has found (two term nodes, their terms in one variable `x`) and what it returns. -/
structure VMApplied (n n' ln rn : Ex) (lt rt : TermEx) (wrap : List Rat → Ex → Ex) (x : Char) : Prop where
  arr : VMArr n ln rn wrap
  left : getTermEx false ln = some lt
  right : getTermEx false rn = some rt
  leftVar : lt.var = some x
  rightVar : rt.var = some x
  result : n' = wrap (vmCoefs lt rt) (vmPower x lt rt)

theorem vmApply_inv {k k' : Ctx} {n n' : Ex} (h : vmApply k n = .ok (k', n')) :
    k' = k ∧ ∃ ln rn lt rt wrap x, VMApplied n n' ln rn lt rt wrap x := by
  unfold vmApply at h
  split at h
  case h_1 => cases h
  next hs =>
    obtain ⟨left, right, ⟨x, leftVar, rightVar⟩, arr⟩ := vmStep_arr hs
    simp only [leftVar] at h
    cases h
    exact ⟨rfl, _, _, _, _, _, x, { arr, left, right, leftVar, rightVar, result := rfl }⟩

/-- the side of the root equation opposite the hole (`other` in `bmType`, an inline `match` there);
a unary root frame has no other side and gets `side` itself -/
def Frame.other (side : Ex) : Frame → Ex
  | .binL _ _ r => r | .binR _ _ l => l | .un .. => side

theorem bmType_splitRoot {k : Ctx} {n : Ex} {ty : BMType} (h : bmType k n = some ty) :
    ∃ inner rootF, splitRoot k = some (inner, rootF) := by
  unfold bmType at h
  split at h
  · cases h
  · exact ⟨_, _, ‹_›⟩

/-- The tests behind `bmType k n = some ty`; a field guarded by `ty = …` takes `rfl` once `ty` is known. -/
structure BMTyped (k inner : Ctx) (rootF : Frame) (n : Ex) (ty : BMType) : Prop where
  root : rootF.isOp .eq = true
  parent : parentIs .eq k = false
  side : (plug inner n).isOp .eq = false
  other : (rootF.other (plug inner n)).isOp .eq = false
  mulParent : ty = .constOfMultiply → parentIs .mul k = true
  noAdd : ty = .constOfMultiply → hasAdd (plug inner n) = false
  divisor : ty = .constOfMultiply → ∃ t v, n = .const t v ∧ v ≠ 0
  addParent : ty = .addition → parentIs .add k = true
  allAdd : ty = .addition → allAdd inner = true
  addend : ty = .addition → (n.isConst || (getTermEx false n).isSome) = true

theorem bmType_inv {k inner : Ctx} {rootF : Frame} {n : Ex} {ty : BMType} (h : bmType k n = some ty)
    (hs : splitRoot k = some (inner, rootF)) : BMTyped k inner rootF n ty := by
  unfold bmType at h
  -- every `if c then none else …` of `bmType` becomes a conjunct `¬ c`
  simp only [hs, Option.ite_none_left_eq_some, Bool.not_eq_true', Bool.not_eq_false, Bool.or_eq_true,
    not_or, Bool.not_eq_true] at h
  obtain ⟨root, parent, ⟨side, hother⟩, h⟩ := h
  -- `hother` is about the inline `match rootF` of the model, which is `rootF.other` frame by frame
  have other : (rootF.other (plug inner n)).isOp .eq = false := by cases rootF <;> exact hother
  split at h
  next hmul =>
    split at h
    · simp only [Option.ite_none_left_eq_some, Bool.not_eq_true] at h
      obtain ⟨hv, hadd, h⟩ := h
      cases h
      exact { root, parent, side, other, mulParent := fun _ => (Bool.and_eq_true_iff.mp hmul).1,
              noAdd := fun _ => hadd, divisor := fun _ => ⟨_, _, rfl, hv⟩,
              addParent := nofun, allAdd := nofun, addend := nofun }
    · cases h
  next =>
    simp only [Option.ite_none_right_eq_some, Option.ite_none_left_eq_some, Bool.not_eq_false] at h
    obtain ⟨hadd, hall, ht, h⟩ := h
    cases h
    exact { root, parent, side, other, mulParent := nofun, noAdd := nofun, divisor := nofun,
            addParent := fun _ => hadd, allAdd := fun _ => hall, addend := fun _ => by simpa using ht }

theorem bmType_root_eq {k : Ctx} {n : Ex} {ty : BMType} (h : bmType k n = some ty) :
    (plug k n).isOp .eq = true := by
  obtain ⟨inner, rootF, hs⟩ := bmType_splitRoot h
  rw [plug_splitRoot hs, isOp_fill]
  exact (bmType_inv h hs).root

theorem removeAddend_inv {inner inner' : Ctx} {sib : Ex} (h : removeAddend inner = some (inner', sib)) :
    ∃ t o, inner = .binL t o sib :: inner' ∨ inner = .binR t o sib :: inner' := by
  unfold removeAddend at h
  split at h <;> cases h
  · exact ⟨_, _, .inl rfl⟩
  · exact ⟨_, _, .inr rfl⟩

/-- The side `plug inner n` below the root frame, the moved node `n`, and the new equation. -/
inductive BMArr : Ctx → Frame → Ex → BMType → Ex → Prop
  | divL {inner t o r n} : BMArr inner (.binL t o r) n .constOfMultiply
      (.bin 0 o (.bin 0 .div (plug inner n).clone n.clone) (.bin 0 .div r.clone n.clone))
  | divR {inner t o l n} : BMArr inner (.binR t o l) n .constOfMultiply
      (.bin 0 o (.bin 0 .div l.clone n.clone) (.bin 0 .div (plug inner n).clone n.clone))
  | subL {inner inner' sib t o r n} : removeAddend inner = some (inner', sib) →
      BMArr inner (.binL t o r) n .addition (.bin 0 o (plug inner' sib).clone (.bin 0 .sub r.clone n.clone))
  | subR {inner inner' sib t o l n} : removeAddend inner = some (inner', sib) →
      BMArr inner (.binR t o l) n .addition (.bin 0 o (.bin 0 .sub l.clone n.clone) (plug inner' sib).clone)

/-- What `bmApply k n` has found (the kind of move, `k` as `inner` below the root frame) and how `n'` is built. -/
structure BMApplied (k : Ctx) (n n' : Ex) (ty : BMType) (inner : Ctx) (rootF : Frame) : Prop where
  type : bmType k n = some ty
  split : splitRoot k = some (inner, rootF)
  arr : BMArr inner rootF n ty n'

theorem bmApply_inv {k k' : Ctx} {n n' : Ex} (h : bmApply k n = .ok (k', n')) :
    k' = [] ∧ ∃ ty inner rootF, BMApplied k n n' ty inner rootF := by
  unfold bmApply at h
  cases hty : bmType k n with
  | none =>
    rw [hty] at h
    cases h
  | some ty =>
    obtain ⟨inner, rootF, hsr⟩ := bmType_splitRoot hty
    simp only [hty, hsr] at h
    -- a unary root frame is the `internal` error; so is an addend without sibling
    cases ty with
    | constOfMultiply =>
      cases rootF with
      | binL =>
        cases h
        exact ⟨rfl, _, _, _, hty, hsr, .divL⟩
      | binR =>
        cases h
        exact ⟨rfl, _, _, _, hty, hsr, .divR⟩
      | un => cases h
    | addition =>
      cases hrem : removeAddend inner with
      | none =>
        simp only [hrem] at h
        cases h
      | some p =>
        simp only [hrem] at h
        cases rootF with
        | binL =>
          cases h
          exact ⟨rfl, _, _, _, hty, hsr, .subL hrem⟩
        | binR =>
          cases h
          exact ⟨rfl, _, _, _, hty, hsr, .subR hrem⟩
        | un => cases h

theorem CSArr.kind {n n' : Ex} (h : CSArr n n') : n'.isOp .eq = n.isOp .eq := by
  cases h <;> rfl

theorem CAArr.not_eq {n n' : Ex} (h : CAArr n n') : n.isOp .eq = false := by
  cases h
  case simple ho _ => exact beq_eq_false_iff_ne.mpr ho.symm
  case chainedRightDeep ho _ | chainedRight ho _ => rcases ho with rfl | rfl <;> rfl
  all_goals rfl

theorem CAArr.kind {n n' : Ex} (h : CAArr n n') : n'.isOp .eq = n.isOp .eq := by
  cases h
  case simple ho _ => exact (beq_eq_false_iff_ne.mpr ho.symm).symm
  all_goals rfl

theorem DFArr.kind {n ln rn core : Ex} {kw : Ctx} {lt rt : TermEx} (h : DFArr n ln rn kw)
    (hc : dfCore lt rt = some core) : (plug kw core).isOp .eq = n.isOp .eq := by
  obtain ⟨f, a, b, c, d⟩ := dfCore_inv hc
  rw [d.result]
  cases h <;> rfl

theorem DMArr.kind {n n' : Ex} (h : DMArr n n') : n'.isOp .eq = n.isOp .eq := by
  cases h <;> rfl

theorem MIArr.kind {n n' : Ex} (h : MIArr n n') : n'.isOp .eq = n.isOp .eq := by
  cases h <;> rfl

theorem RSArr.kind {n n' : Ex} (h : RSArr n n') : n'.isOp .eq = n.isOp .eq := by
  cases h <;> rfl

theorem VMArr.kind {n ln rn : Ex} {wrap : List Rat → Ex → Ex} (h : VMArr n ln rn wrap) (x : Char)
    (lt rt : TermEx) : (wrap (vmCoefs lt rt) (vmPower x lt rt)).isOp .eq = n.isOp .eq := by
  obtain hc | ⟨a, hc⟩ | ⟨a, b, hc⟩ := vmCoefs_cases lt rt <;> rw [hc] <;> cases h <;> rfl

theorem ASRot.kind {m n' : Ex} (h : ASRot m n') : n'.isOp .eq = m.isOp .eq := by
  cases h <;> rfl

end Mathy
