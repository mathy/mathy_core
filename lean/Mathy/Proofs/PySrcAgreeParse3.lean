/-
The model's parser IS the repository's parser (translated source): the induction step
`Agree n → Agree (n + 1)` for every method but `parse_factors`.  Each proof puts the model's step
equation on the left and the unfolded translated method on the right and goes down both with the
rules of `Sim`; a test of the source (`check`, a comparison of `TOKEN_TYPES` bits) becomes the
model's test by `check_false` / `check_true_bind`, the `set_*` lemmas and `tyBits_beq`.  A `simp only` names these;
`pyflow` beside them is the housekeeping, `bind_bind` / `bind_ite` bring the translated text into the model's shape.
-/
import Mathy.Proofs.PySrcAgreeParse2
namespace Mathy.SrcAgree
open Mathy.Py Mathy.Gen.Src

/-- the common shape of `parse_equal`, `parse_add`, `parse_mult`: assert the first token, parse one
operand with `sub`, hand it to the loop -/
theorem level_step {first : TT → Bool} {mask : Nat} (hmask : ∀ t, TokenSet_contains mask (tyBits t) = first t)
    {sub : List Tok → PRes} {subG : ParserState → Except PyErr (Ex × ParserState)}
    {loop : Ex → List Tok → PRes} {loopG : ParserState → Ex → Except PyErr (ParserState × Ex)}
    (hsub : ∀ ts, Good ts → Sim RP (sub ts) (subG (stOf ts)))
    (hloop : ∀ e ts, Good ts → Sim RL (loop e ts) (loopG (stOf ts) e)) (ts : List Tok) (hg : Good ts) :
    Sim RP
      (if !first (headType ts) then .error .invalidSyntax else (sub ts).bind fun p => loop p.1 p.2)
      ((ExpressionParser_check (stOf ts) mask true).bind fun _ =>
        (subG (stOf ts)).bind fun r => (loopG r.2 r.1).bind fun w => .ok (w.2, w.1)) := by
  rw [check_true_bind, hmask]
  refine .ite (fun _ => .error _) fun _ => (hsub ts hg).bind_rel fun e ts1 hg1 => ?_
  exact (hloop e ts1 hg1).map fun _ _ h => ⟨by rw [h.1], h.2⟩

/-- an optional `^ unary` after the base `b` (`parse_exponent`, `parse_factors`): `c` is what the model does
with the result, `k` what the translated method does with the exponent, `z` what it does without one -/
theorem pow_step {n : Nat}
    (hunary : ∀ ts, Good ts → Sim RP (parseUnary n ts) (ExpressionParser_parse_unary (n + 1) (stOf ts)))
    {S : γ → β → Prop} (c : Ex × List Tok → Except PErr γ) {k : Ex × ParserState → Except PyErr β}
    {z : Except PyErr β} (b : Ex) (ts : List Tok) (hg : Good ts) (hz : Sim S (c (b, ts)) z)
    (hk : headType ts = .exponent → ∀ r ts', Good ts' → Sim S (c (.bin 0 .pow b r, ts')) (k (r, stOf ts'))) :
    Sim S ((powTail n b ts).bind c)
      ((ExpressionParser_check (stOf ts) parser_IS_EXP false).bind fun v =>
        if v then
          (ExpressionParser_eat (stOf ts) (stOf ts).current_token.type).bind fun r =>
            (ExpressionParser_check r.2 parser_FIRST_UNARY false).bind fun v' =>
              if !v' then .error .InvalidSyntax else (ExpressionParser_parse_unary (n + 1) r.2).bind k
        else z) := by
  rw [powTail, check_false, bind_ok, set_is_exp, bind_ite]
  refine .ite (fun hx => ?_) fun _ => hz
  have hhd : headType ts = .exponent := by simpa [isExpTok] using hx
  rw [cur_type, hhd, bind_bind]
  refine Sim.eat_bind hg _ fun ts1 _ hg1 => ?_
  simp only [pyflow, bind_bind, bind_ite, check_false, set_first_unary]
  exact .ite (fun _ => .error _) fun _ => (hunary ts1 hg1).bind_rel fun r ts2 hg2 => hk hhd r ts2 hg2

section step
variable {n : Nat} (ih : Agree n)
include ih

theorem equal_step (ts : List Tok) (hg : Good ts) :
    Sim RP (parseEqual (n + 1) ts) (ExpressionParser_parse_equal (n + 1 + 1) (stOf ts)) := by
  rw [parseEqual_succ, ExpressionParser_parse_equal]
  exact level_step set_first_add ih.add ih.equalL ts hg

theorem add_step (ts : List Tok) (hg : Good ts) :
    Sim RP (parseAdd (n + 1) ts) (ExpressionParser_parse_add (n + 1 + 1) (stOf ts)) := by
  rw [parseAdd_succ, ExpressionParser_parse_add]
  exact level_step set_first_mult ih.mult ih.addL ts hg

theorem mult_step (ts : List Tok) (hg : Good ts) :
    Sim RP (parseMult (n + 1) ts) (ExpressionParser_parse_mult (n + 1 + 1) (stOf ts)) := by
  rw [parseMult_succ, ExpressionParser_parse_mult]
  exact level_step set_first_exp ih.exp ih.multL ts hg

theorem equalL_step (acc : Ex) (ts : List Tok) (hg : Good ts) :
    Sim RL (equalLoop (n + 1) acc ts) (ExpressionParser_parse_equal_while1 (n + 1 + 1) (stOf ts) acc) := by
  rw [equalLoop_succ, ExpressionParser_parse_equal_while1, check_false, bind_ok, set_is_equal]
  refine .ite (fun hop => ?_) fun _ => .ok ⟨rfl, hg⟩
  have hhd : headType ts = .equal := by simpa [isEqualTok] using hop
  simp only [cur_type, hhd]
  refine Sim.eat_bind hg _ fun ts1 _ hg1 => ?_
  simp only [pyflow, bind_bind, bind_ite, check_false, set_first_add]
  refine .ite (fun hf => ?_) fun _ => .error _
  -- `if not expected or not right` asks for `expected` once more
  simp only [pyflow, hf]
  exact (ih.add ts1 hg1).bind_rel fun r ts2 hg2 => ih.equalL _ ts2 hg2

theorem addL_step (acc : Ex) (ts : List Tok) (hg : Good ts) :
    Sim RL (addLoop (n + 1) acc ts) (ExpressionParser_parse_add_while1 (n + 1 + 1) (stOf ts) acc) := by
  rw [addLoop_succ, ExpressionParser_parse_add_while1, check_false, bind_ok, set_is_add]
  refine .ite (fun hop => ?_) fun _ => .ok ⟨rfl, hg⟩
  have hop' : headType ts = .plus ∨ headType ts = .minus := by simpa [isAddTok] using hop
  simp only [cur_type]
  refine Sim.eat_bind hg _ fun ts1 _ hg1 => ?_
  simp only [pyflow, bind_bind, bind_ite, check_false, set_first_mult]
  refine .ite (fun hf => ?_) fun _ => .error _
  simp only [pyflow, hf, tt_consts, tyBits_beq]
  refine (ih.mult ts1 hg1).bind_rel fun r ts2 hg2 => ?_
  rcases hop' with h | h <;>
    simp only [pyflow, h, beq_iff_eq, reduceCtorEq, BEq.rfl] <;>
    exact ih.addL _ ts2 hg2

theorem multL_step (acc : Ex) (ts : List Tok) (hg : Good ts) :
    Sim RL (multLoop (n + 1) acc ts) (ExpressionParser_parse_mult_while1 (n + 1 + 1) (stOf ts) acc) := by
  rw [multLoop_succ, ExpressionParser_parse_mult_while1, check_false, bind_ok, set_is_mult]
  refine .ite (fun hop => ?_) fun _ => .ok ⟨rfl, hg⟩
  have hop' : headType ts = .multiply ∨ headType ts = .divide := by simpa [isMultTok] using hop
  simp only [cur_type]
  refine Sim.eat_bind hg _ fun ts1 _ hg1 => ?_
  simp only [pyflow, bind_bind, bind_ite, check_false, set_first_exp]
  refine .ite (fun hf => ?_) fun _ => .error _
  simp only [pyflow, hf, tt_consts, tyBits_beq]
  -- `*` takes the rest of the product as its right operand, `/` one exponent
  rcases hop' with h | h <;>
    simp only [pyflow, h, beq_iff_eq, reduceCtorEq, BEq.rfl]
  · exact (ih.mult ts1 hg1).bind_rel fun r ts2 hg2 => ih.multL _ ts2 hg2
  · exact (ih.exp ts1 hg1).bind_rel fun r ts2 hg2 => ih.multL _ ts2 hg2

theorem exp_step (ts : List Tok) (hg : Good ts) :
    Sim RP (parseExponent (n + 1) ts) (ExpressionParser_parse_exponent (n + 1 + 1) (stOf ts)) := by
  rw [parseExponent_succ, ExpressionParser_parse_exponent, check_true_bind, set_first_unary]
  refine .ite (fun _ => .error _) fun _ => (ih.unary ts hg).bind_rel fun e ts1 hg1 => ?_
  simp only [pyflow, bind_bind, bind_ite]
  -- `pow_step` is stated for `(powTail …).bind c`; here `c` is `.ok`
  rw [← bind_pure (powTail n e ts1)]
  refine pow_step ih.unary _ e ts1 hg1 (.ok ⟨rfl, hg1⟩) fun hhd r ts2 hg2 => ?_
  simp only [pyflow, cur_type, hhd, tt_consts, beq_self_eq_true]
  exact .ok ⟨rfl, hg2⟩

theorem fn_step (ts : List Tok) (hg : Good ts) (hfn : headType ts = .function) :
    Sim RP (parseFunction (n + 1) ts) (ExpressionParser_parse_function (n + 1 + 1) (stOf ts)) := by
  have hval : dictGet Tokenizer_function_table (hd ts).value = .ok .sgn :=
    (hg.ok _ (hd_mem hg.wf.ne_nil)).1 (by rw [← headType_eq_hd]; exact hfn)
  rw [parseFunction_succ, ExpressionParser_parse_function]
  simp only [pyflow, cur_type, cur_value, tt_consts, hval]
  refine Sim.eat_bind hg _ fun ts1 _ hg1 => ?_
  refine Sim.eat_bind hg1 _ fun ts2 _ hg2 => ?_
  refine (ih.add ts2 hg2).bind_rel fun e ts3 hg3 => ?_
  exact Sim.eat_bind hg3 _ fun ts4 _ hg4 => .ok ⟨rfl, hg4⟩

theorem unary_step (ts0 : List Tok) (hg0 : Good ts0) :
    Sim RP (parseUnary (n + 1) ts0) (ExpressionParser_parse_unary (n + 1 + 1) (stOf ts0)) := by
  rw [parseUnary_succ, ExpressionParser_parse_unary]
  simp only [cur_type, tt_consts, tyBits_beq]
  -- the leading minus is eaten first; `neg` is all that is remembered of it
  refine Sim.bind (R := fun ts (b : ParserState × Bool) => b = (stOf ts, headType ts0 == .minus) ∧ Good ts)
    (.ite (fun hc => (Sim.eat hg0 _).map fun _ _ h => ⟨by rw [h.1, hc], h.2⟩)
      fun hc => .ok ⟨by rw [eq_false_of_ne_true hc], hg0⟩) ?_
  rintro ts _ ⟨rfl, hg⟩
  generalize (headType ts0 == TT.minus) = neg
  simp only [pyflow, unaryBody, headD_eofTok, check_false, set_first_factor_prefix, cur_type, cur_value, tyBits_beq]
  by_cases hc : (headType ts == .constant) = true
  · have hfp : firstFactorPrefix (headType ts) = true := by simp [firstFactorPrefix, hc]
    simp only [pyflow, hfp, hc, pyCoerceToNumber]
    cases parseNumber (hd ts).value
    · exact .error _
    have hj (q : Rat) : (if neg = true then (Except.ok (-q, false) : Except PyErr (Rat × Bool)) else .ok (q, neg)) =
        .ok (if neg = true then -q else q, false) := by cases neg <;> rfl
    simp only [pyflow, bind_bind, hj]
    refine Sim.eat_bind hg _ fun ts1 _ hg1 => ?_
    simp only [pyflow, bind_bind, bind_ite, litTail, check_false, set_first_factor, cur_type, tyBits_beq]
    refine .ite (fun _ => .ite (fun _ => ?_) fun _ => ?_) fun _ => .ok ⟨rfl, hg1⟩
    · exact Sim.eat_bind hg1 _ fun ts2 _ hg2 => .ok ⟨rfl, hg2⟩
    · exact (ih.factors ts1 hg1).bind_rel fun f ts2 hg2 => .ok ⟨rfl, hg2⟩
  · have hfp : firstFactorPrefix (headType ts) = firstFactor (headType ts) := by simp [firstFactorPrefix, hc]
    simp only [pyflow, hfp, hc]
    cases hff : firstFactor (headType ts)
    · simp only [pyflow]
      exact .error _
    simp only [pyflow, bind_bind, check_false, set_first_factor, hff]
    refine (ih.factors ts hg).bind_rel fun f ts1 hg1 => ?_
    cases neg <;> exact .ok ⟨rfl, hg1⟩

end step

end Mathy.SrcAgree
