/-
Printability (`NoEq` / `Printable`) is preserved by every rewrite and holds for every parser
output.
-/
import Mathy.Proofs.PrintParse
import Mathy.Proofs.Arr
import Mathy.Proofs.CtxLemmas
namespace Mathy

theorem printable_bin (t : Nat) (o : Bop) (l r : Ex) :
    Printable (.bin t o l r) = true ↔
      if o = .eq then Printable l = true ∧ Printable r = true else NoEq l = true ∧ NoEq r = true := by
  cases o <;> simp [Printable, NoEq]

@[simp] theorem noEq_const (t : Nat) (v : Rat) : NoEq (.const t v) = true := rfl
@[simp] theorem noEq_var (t : Nat) (x : Char) : NoEq (.var t x) = true := rfl
@[simp] theorem noEq_neg (t : Nat) (c : Ex) : NoEq (.un t .neg c) = NoEq c := rfl

theorem printable_of_not_eq {e : Ex} (h : e.isOp .eq = false) : Printable e = NoEq e := by
  unfold Printable
  split
  · simp [Ex.isOp] at h
  · rfl

theorem noEq_printable {e : Ex} (h : NoEq e = true) : Printable e = true := by
  unfold Printable
  split
  · exact absurd rfl ((noEq_bin ..).1 h).1
  · exact h

theorem noEq_of_printable_bin {t : Nat} {o : Bop} {l r : Ex} (hp : Printable (.bin t o l r) = true)
    (hl : l.isOp .eq = false) (hr : r.isOp .eq = false) : NoEq l = true ∧ NoEq r = true := by
  rwa [printable_bin, printable_of_not_eq hl, printable_of_not_eq hr, ite_self] at hp

theorem printable_of_noEq_bin (t : Nat) (o : Bop) {l r : Ex} (hl : NoEq l = true)
    (hr : NoEq r = true) : Printable (.bin t o l r) = true := by
  rw [printable_bin]
  split
  · exact ⟨noEq_printable hl, noEq_printable hr⟩
  · exact ⟨hl, hr⟩

theorem noEq_of_isConst {e : Ex} (h : e.isConst = true) : NoEq e = true := by
  obtain ⟨t, v, rfl⟩ := isConst_eq_true h
  rfl

@[simp] theorem isConst_clone (e : Ex) : e.clone.isConst = e.isConst := by
  cases e <;> rfl

@[simp] theorem noEq_clone (e : Ex) : NoEq e.clone = NoEq e := by
  induction e with
  | const t v => rfl
  | var t x => rfl
  | un t o c ih => cases o <;> simp [Ex.clone, NoEq, ih]
  | bin t o l r ihl ihr =>
    rw [Bool.eq_iff_iff]
    simp only [Ex.clone, noEq_bin, ihl, ihr]

/-- `n'` may take the place of `n` anywhere in a printable tree -/
structure Repl (n n' : Ex) : Prop where
  noEq : NoEq n = true → NoEq n' = true
  pr : Printable n = true → Printable n' = true
  cst : n.isConst = true → n'.isConst = true

theorem Repl.of_noEq {n n' : Ex} (hne : n.isOp .eq = false) (hc : n.isConst = false)
    (h : NoEq n = true → NoEq n' = true) : Repl n n' :=
  ⟨h, fun hp => noEq_printable (h (by rwa [← printable_of_not_eq hne])), fun h' => by simp [hc] at h'⟩

theorem Repl.refl (n : Ex) : Repl n n := ⟨id, id, id⟩

theorem Repl.bin {l l' r r' : Ex} (hl : Repl l l') (hr : Repl r r') (t : Nat) (o : Bop) :
    Repl (.bin t o l r) (.bin t o l' r') := by
  refine ⟨?_, ?_, id⟩
  · simp only [noEq_bin]
    exact fun ⟨a, b, c⟩ => ⟨a, hl.noEq b, hr.noEq c⟩
  · simp only [printable_bin]
    split
    · exact fun ⟨a, b⟩ => ⟨hl.pr a, hr.pr b⟩
    · exact fun ⟨a, b⟩ => ⟨hl.noEq a, hr.noEq b⟩

/-- below `!` only a literal may stand: the reason `Repl` records `isConst` -/
theorem Repl.un {n n' : Ex} (h : Repl n n') (t : Nat) (o : Uop) : Repl (.un t o n) (.un t o n') := by
  have : NoEq (.un t o n) = true → NoEq (.un t o n') = true := by
    cases o with
    | neg | sgn => exact h.noEq
    | fact => exact h.cst
    | abs => exact id
  exact ⟨this, this, id⟩

theorem Repl.fill {n n' : Ex} (h : Repl n n') : ∀ f : Frame, Repl (f.fill n) (f.fill n')
  | .binL t o r => h.bin (.refl r) t o
  | .binR t o l => (Repl.refl l).bin h t o
  | .un t o => h.un t o

theorem Repl.plug {n n' : Ex} (h : Repl n n') (k : Ctx) :
    Printable (plug k n) = true → Printable (plug k n') = true :=
  (plug_congr (fun f _ _ h => h.fill f) h k).pr

/-! Each arrangement (`Proofs/Arr.lean`) but the plain swap of `CSArr`, whose operator may be `=`, has a
non-equation, non-constant node on the left (`Repl.of_noEq`) and builds the right side from operands of the
left by operators other than `=`. -/

theorem ASRot.repl {m n' : Ex} (h : ASRot m n') : Repl m n' := by
  cases h with
  | left ho | right ho =>
    rcases ho with rfl | rfl <;> exact .of_noEq rfl rfl (by simp only [noEq_bin]; tauto)

theorem CSArr.repl {n n' : Ex} (arr : CSArr n n') : Repl n n' := by
  cases arr with
  | swap =>
    refine ⟨?_, ?_, id⟩
    · simp only [noEq_bin]; tauto
    · simp only [printable_bin]; split <;> tauto
  | chain ho => rcases ho with rfl | rfl <;> exact .of_noEq rfl rfl (by simp only [noEq_bin]; tauto)

theorem CAArr.repl {n n' : Ex} (arr : CAArr n n') : Repl n n' := by
  refine .of_noEq arr.not_eq (by cases arr <;> rfl) ?_
  -- the right side keeps the non-literal operands of the left: `simp` finds up to two, `chainedLeftLeftRight` has three
  cases arr <;> simp [noEq_bin]
  case chainedLeftLeftRight => exact fun hll hlrr hrr => ⟨hll, hlrr, hrr⟩

theorem makeTerm_noEq {q : Rat} {v : Option Char} {e : Option Rat} {m : Ex}
    (h : makeTerm q v e = some m) : NoEq m = true := by
  cases makeTerm_inv h <;> rfl

theorem dfCore_noEq {lt rt : TermEx} {core : Ex} (h : dfCore lt rt = some core) :
    NoEq core = true := by
  obtain ⟨f, a, b, c, d⟩ := dfCore_inv h
  simp [d.result, noEq_bin, makeTerm_noEq d.common, makeTerm_noEq d.left, makeTerm_noEq d.right]

theorem dfApply_repl {k k' : Ctx} {n n' : Ex} (h : dfApply k n = .ok (k', n')) :
    k' = k ∧ Repl n n' := by
  obtain ⟨rfl, ln, rn, lt, rt, kw, core, d⟩ := dfApply_inv h
  have hc := dfCore_noEq d.factored
  rw [d.result]
  refine ⟨rfl, ?_⟩
  cases d.arr <;> exact .of_noEq rfl rfl (by simp only [plug, Frame.fill, noEq_bin, hc]; tauto)

theorem dmBuild_noEq (a b c : Ex) (ha : NoEq a = true) (hb : NoEq b = true) (hc : NoEq c = true) :
    NoEq (dmBuild a b c) = true := by
  simp only [dmBuild]
  split_ifs <;> simp [noEq_bin, ha, hb, hc]

theorem DMArr.repl {n n' : Ex} (arr : DMArr n n') : Repl n n' := by
  cases arr with
  | left =>
    refine .of_noEq rfl rfl fun hn => ?_
    obtain ⟨-, hsum, ha⟩ := (noEq_bin ..).1 hn
    obtain ⟨-, hb, hc⟩ := (noEq_bin ..).1 hsum
    exact dmBuild_noEq _ _ _ ha hb hc
  | right =>
    refine .of_noEq rfl rfl fun hn => ?_
    obtain ⟨-, ha, hsum⟩ := (noEq_bin ..).1 hn
    obtain ⟨-, hb, hc⟩ := (noEq_bin ..).1 hsum
    exact dmBuild_noEq _ _ _ ha hb hc

theorem MIArr.repl {n n' : Ex} (arr : MIArr n n') : Repl n n' := by
  cases arr <;> exact .of_noEq rfl rfl (by simp [noEq_bin])

theorem RSArr.repl {n n' : Ex} (arr : RSArr n n') : Repl n n' := by
  cases arr <;> exact .of_noEq rfl rfl (by simp [noEq_bin])

/-- `wrap` multiplies `p` by the kept factor of `n`, if there is one, and by at most two literals -/
theorem VMArr.noEq {n ln rn : Ex} {wrap : List Rat → Ex → Ex} (arr : VMArr n ln rn wrap)
    (coefs : List Rat) {p : Ex} (hn : NoEq n = true) (hp : NoEq p = true) :
    NoEq (wrap coefs p) = true := by
  cases arr <;> simp only [noEq_bin] at hn
  case simple => unfold vmWrapSimple; split <;> simp [noEq_bin, hp]
  case chained => unfold vmWrapChained; split <;> simp [noEq_bin, hp, hn]
  case chainedLeftRight => unfold vmWrapCLR; split <;> simp [noEq_bin, hp, hn]

theorem vmApply_repl {k k' : Ctx} {n n' : Ex} (h : vmApply k n = .ok (k', n')) :
    k' = k ∧ Repl n n' := by
  obtain ⟨rfl, ln, rn, lt, rt, wrap, x, d⟩ := vmApply_inv h
  rw [d.result]
  exact ⟨rfl, .of_noEq (by cases d.arr <;> rfl) (by cases d.arr <;> rfl) fun hn => d.arr.noEq _ hn rfl⟩

theorem noEq_of_plug {k : Ctx} {e : Ex} (h : NoEq (plug k e) = true) : NoEq e = true := by
  induction k generalizing e with
  | nil => exact h
  | cons f fs ih =>
    have := ih h
    cases f with
    | binL t o r => exact ((noEq_bin ..).1 this).2.1
    | binR t o l => exact ((noEq_bin ..).1 this).2.2
    | un t o =>
      cases o with
      | neg | sgn => exact this
      | fact => exact noEq_of_isConst this
      | abs => cases this

theorem noEq_plug_allAdd {k : Ctx} (ha : allAdd k = true) {e e' : Ex}
    (h : NoEq (plug k e) = true) (he : NoEq e' = true) : NoEq (plug k e') = true := by
  induction k generalizing e e' with
  | nil => exact he
  | cons f fs ih =>
    obtain ⟨hf, hfs⟩ := allAdd_cons.1 ha
    refine ih hfs h ?_
    have := noEq_of_plug (k := fs) h
    cases f with
    | binL t o r => exact (noEq_bin ..).2 ⟨((noEq_bin ..).1 this).1, he, ((noEq_bin ..).1 this).2.2⟩
    | binR t o l => exact (noEq_bin ..).2 ⟨((noEq_bin ..).1 this).1, ((noEq_bin ..).1 this).2.1, he⟩
    | un t o => cases hf

theorem removeAddend_noEq {inner inner' : Ctx} {sib n : Ex}
    (h : removeAddend inner = some (inner', sib)) (ha : allAdd inner = true)
    (hn : NoEq (plug inner n) = true) : NoEq (plug inner' sib) = true := by
  -- `sib` is the other operand of the innermost frame; it takes the place of that whole sum
  obtain ⟨t, o, rfl | rfl⟩ := removeAddend_inv h
  · have hsum := (noEq_bin ..).1 (noEq_of_plug (k := inner') hn)
    exact noEq_plug_allAdd (allAdd_cons.1 ha).2 hn hsum.2.2
  · have hsum := (noEq_bin ..).1 (noEq_of_plug (k := inner') hn)
    exact noEq_plug_allAdd (allAdd_cons.1 ha).2 hn hsum.2.1

theorem bmApply_printable {k k' : Ctx} {n n' : Ex} (h : bmApply k n = .ok (k', n'))
    (hp : Printable (plug k n) = true) : Printable (plug k' n') = true := by
  obtain ⟨rfl, ty, inner, rootF, d⟩ := bmApply_inv h
  have ht := bmType_inv d.type d.split
  rw [plug_splitRoot d.split] at hp
  -- neither side of the root is an equation (`ht.side`, `ht.other`), so both are free of `=`, and so is
  -- what the move builds from them with `/` and `-`
  cases d.arr with
  | divL =>
    obtain ⟨h1, h2⟩ := noEq_of_printable_bin hp ht.side ht.other
    have hn := noEq_of_plug h1
    exact printable_of_noEq_bin _ _ (by simp [noEq_bin, h1, hn]) (by simp [noEq_bin, h2, hn])
  | divR =>
    obtain ⟨h2, h1⟩ := noEq_of_printable_bin hp ht.other ht.side
    have hn := noEq_of_plug h1
    exact printable_of_noEq_bin _ _ (by simp [noEq_bin, h2, hn]) (by simp [noEq_bin, h1, hn])
  | subL hrem =>
    obtain ⟨h1, h2⟩ := noEq_of_printable_bin hp ht.side ht.other
    exact printable_of_noEq_bin _ _ (by simpa using removeAddend_noEq hrem (ht.allAdd rfl) h1)
      (by simp [noEq_bin, h2, noEq_of_plug h1])
  | subR hrem =>
    obtain ⟨h2, h1⟩ := noEq_of_printable_bin hp ht.other ht.side
    exact printable_of_noEq_bin _ _ (by simp [noEq_bin, h2, noEq_of_plug h1])
      (by simpa using removeAddend_noEq hrem (ht.allAdd rfl) h1)

theorem applyRule_printable {r : Rule} {k k' : Ctx} {n n' : Ex} (hc : canApply r k n = true)
    (h : applyRule r k n = .ok (k', n')) (hp : Printable (plug k n) = true) :
    Printable (plug k' n') = true := by
  cases r with
  | associative => obtain ⟨f, rfl, rot⟩ := (asApply_inv h).rot hc; exact rot.repl.plug k' hp
  | commutative p => obtain ⟨rfl, arr⟩ := csApply_inv h; exact arr.repl.plug _ hp
  | constants => obtain ⟨rfl, arr⟩ := caApply_inv h; exact arr.repl.plug _ hp
  | factorOut c => obtain ⟨rfl, hr⟩ := dfApply_repl h; exact hr.plug _ hp
  | distribute => obtain ⟨rfl, arr⟩ := dmApply_inv h; exact arr.repl.plug _ hp
  | inverse => obtain ⟨rfl, arr⟩ := miApply_inv h; exact arr.repl.plug _ hp
  | restate => obtain ⟨rfl, arr⟩ := rsApply_inv h; exact arr.repl.plug _ hp
  | variableMultiply => obtain ⟨rfl, hr⟩ := vmApply_repl h; exact hr.plug _ hp
  | balancedMove => exact bmApply_printable h hp

/-! Parser outputs: by the recursor of the grammar's mutual block, one motive per relation (`induction` does
not take a mutual block, and nine structurally recursive theorems in a `mutual` block are slow to
elaborate). -/

theorem product_noEq {f0 : Ex} {fs : List Ex} (h : ∀ f ∈ f0 :: fs, NoEq f = true) :
    NoEq (G.product f0 fs) = true := by
  unfold G.product
  induction fs generalizing f0 with
  | nil => exact h f0 (by simp)
  | cons g gs ih =>
    refine ih fun f hf => ?_
    rcases List.mem_cons.1 hf with rfl | hf
    · simp [noEq_bin, h f0 (by simp), h g (by simp)]
    · exact h f (by simp [hf])

theorem addE_noEq {ts : List Tok} {e : Ex} (h : G.AddE ts e) : NoEq e = true := by
  apply G.AddE.rec
    (motive_1 := fun _ e _ => NoEq e = true)                        -- Prim
    (motive_2 := fun _ es _ => ∀ e ∈ es, NoEq e = true)             -- PrimSeq
    (motive_3 := fun _ e _ => NoEq e = true)                        -- Factors
    (motive_4 := fun _ e _ => NoEq e = true)                        -- UnaryE
    (motive_5 := fun _ e _ => NoEq e = true)                        -- ExpE
    (motive_6 := fun acc _ e _ => NoEq acc = true → NoEq e = true)  -- MultLoop
    (motive_7 := fun _ e _ => NoEq e = true)                        -- MultE
    (motive_8 := fun acc _ e _ => NoEq acc = true → NoEq e = true)  -- AddLoop
    (motive_9 := fun _ e _ => NoEq e = true)                        -- AddE
    (t := h)
  -- a goal per constructor, under its name (`pow`, `done`, `mk` twice, in the order of `Spec/Grammar.lean`)
  all_goals intros
  -- Prim
  case var => rfl
  case fn ih | paren ih => exact ih
  -- PrimSeq
  case one ih f hf => exact List.mem_singleton.1 hf ▸ ih
  case cons ih ih' f hf =>
    rcases List.mem_cons.1 hf with rfl | hf
    · exact ih
    · exact ih' f hf
  -- Factors
  case plain ih => exact product_noEq ih
  case pow heq ih ih' =>
    refine product_noEq (heq ▸ fun f hf => ?_)
    rcases List.mem_append.1 hf with hf | hf
    · exact ih f (List.mem_append_left _ hf)
    · obtain rfl := List.mem_singleton.1 hf
      simp [noEq_bin, ih', ih _ (List.mem_append_right _ (List.mem_singleton_self _))]
  -- UnaryE
  case lit | negLit | fact | negFact => rfl
  case litFactors ih | negLitFactors ih | factors ih | negFactors ih => exact ih
  -- ExpE
  case unary ih => exact ih
  case pow ih ih' => simp [noEq_bin, ih, ih']
  -- MultLoop, MultE
  case done hacc => exact hacc
  case div ih ih' hacc => exact ih' (by simp [noEq_bin, hacc, ih])
  case mul ih hacc => simp [noEq_bin, hacc, ih]
  case mk ih ih' => exact ih' ih
  -- AddLoop, AddE
  case done hacc => exact hacc
  case plus ih ih' hacc | minus ih ih' hacc => exact ih' (by simp [noEq_bin, hacc, ih])
  case mk ih ih' => exact ih' ih

theorem eqLoop_printable {acc : Ex} {ts : List Tok} {e : Ex} (h : G.EqLoop acc ts e)
    (hacc : Printable acc = true) : Printable e = true := by
  induction h with
  | done acc => exact hacc
  | eq q hq a a' ih =>
    apply ih
    simp [printable_bin, hacc, noEq_printable (addE_noEq a)]

end Mathy
