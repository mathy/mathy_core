/-
The model's parser IS the repository's parser (`Gen/PySrcParse.lean`, printed from the live
`mathy_core/parser.py` by `harness/py2lean_parse.py`) — part 1: representation, token sets, and
the primitive methods `check`, `next`.  The parser object is the record `ParserState`; the model
keeps the current token at the head of its token list (`stOf`).
-/
import Mathy.Gen.PySrcParse
import Mathy.Proofs.PySrcAgreeTokSt
import Mathy.Proofs.ParserStep
import Mathy.Proofs.PyRtAttr
namespace Mathy.SrcAgree
open Mathy.Py Mathy.Gen.Src

theorem set_first_unary (t : TT) : TokenSet_contains parser_FIRST_UNARY (tyBits t) = firstUnary t := by cases t <;> rfl
theorem set_first_exp (t : TT) : TokenSet_contains parser_FIRST_EXP (tyBits t) = firstExp t := set_first_unary t
theorem set_first_mult (t : TT) : TokenSet_contains parser_FIRST_MULT (tyBits t) = firstMult t := set_first_unary t
theorem set_first_add (t : TT) : TokenSet_contains parser_FIRST_ADD (tyBits t) = firstAdd t := set_first_unary t
theorem set_first_factor_prefix (t : TT) :
    TokenSet_contains parser_FIRST_FACTOR_PREFIX (tyBits t) = firstFactorPrefix t := by cases t <;> rfl
theorem set_first_factor (t : TT) : TokenSet_contains parser_FIRST_FACTOR (tyBits t) = firstFactor t := by cases t <;> rfl
theorem set_is_add (t : TT) : TokenSet_contains parser_IS_ADD (tyBits t) = isAddTok t := by cases t <;> rfl
theorem set_is_mult (t : TT) : TokenSet_contains parser_IS_MULT (tyBits t) = isMultTok t := by cases t <;> rfl
theorem set_is_exp (t : TT) : TokenSet_contains parser_IS_EXP (tyBits t) = isExpTok t := by cases t <;> rfl
theorem set_is_equal (t : TT) : TokenSet_contains parser_IS_EQUAL (tyBits t) = isEqualTok t := by cases t <;> rfl

def eofTok : Tok := ⟨.eof, []⟩

/-- the current token of the model's list (`[]` behaves like the end marker) -/
def hd (ts : List Tok) : Tok := ts.headD eofTok

theorem headType_eq_hd (ts : List Tok) : headType ts = (hd ts).type := by
  cases ts <;> rfl

/-- the step equations read the current token with the grammar's end marker as default -/
theorem headD_eofTok (ts : List Tok) : ts.headD Mathy.eofTok = hd ts := rfl

/-- the Python parser state for the model's token list: current token = head, queue = tail -/
def stOf (ts : List Tok) : ParserState := ⟨ts.tail.map tokToPy, tokToPy (hd ts)⟩

/-- the list ends with an end marker (what the tokenizer produces; `Src_tokenize_eof`) -/
def WF (ts : List Tok) : Prop := ∃ b e, ts = b ++ [e] ∧ e.type = .eof

theorem WF.ne_nil {ts : List Tok} (h : WF ts) : ts ≠ [] := by
  obtain ⟨b, e, rfl, -⟩ := h; simp

theorem WF.tail {t : Tok} {ts : List Tok} (h : WF (t :: ts)) (ht : t.type ≠ .eof) : WF ts := by
  obtain ⟨b, e, hb, he⟩ := h
  cases b with
  | nil => simp only [List.nil_append, List.cons.injEq] at hb; exact absurd (hb.1 ▸ he) ht
  | cons x b => simp only [List.cons_append, List.cons.injEq] at hb; exact ⟨b, e, hb.2, he⟩

/-- what the tokenizer guarantees about its tokens (`tokenize_good`) -/
def TokOK (ts : List Tok) : Prop :=
  ∀ t ∈ ts, (t.type = .function → dictGet Tokenizer_function_table t.value = .ok .sgn) ∧
    (t.type ≠ .eof → t.value ≠ [])

structure Good (ts : List Tok) : Prop where
  wf : WF ts
  ok : TokOK ts

theorem Good.tail {t : Tok} {ts : List Tok} (h : Good (t :: ts)) (ht : t.type ≠ .eof) : Good ts :=
  ⟨h.wf.tail ht, fun x hx => h.ok x (List.mem_cons_of_mem _ hx)⟩

/-- the Python exception for a model error.  `badNumber` is `float()`'s `ValueError`, its message unmodelled:
`[]` as in `pyCoerceToNumber`, told from the tokenizer's `ValueError` (`invalidTokenMsg`) by the text alone -/
def errOf : PErr → PyErr
  | .invalidExpression => .InvalidExpression | .outOfTokens => .OutOfTokens
  | .invalidSyntax => .InvalidSyntax | .unexpectedBehavior => .UnexpectedBehavior
  | .trailingTokens => .TrailingTokens | .badNumber => .ValueError [] | .fuel => .OutOfFuel

theorem bind_err {α β : Type} (e : PyErr) (f : α → Except PyErr β) : Except.bind (.error e) f = .error e :=
  error_bind e

variable {ε α β γ : Type}

/-! the monad laws, spelt with `Except.bind` as the translator prints it -/

theorem bind_bind (g : Except ε α) (f : α → Except ε β) (h : β → Except ε γ) :
    (g.bind f).bind h = g.bind fun a => (f a).bind h :=
  bind_assoc g f h

theorem bind_ite (c : Prop) [Decidable c] (g g' : Except ε α) (f : α → Except ε β) :
    (if c then g else g').bind f = if c then g.bind f else g'.bind f :=
  apply_ite (Except.bind · f) c g g'

theorem bind_pure (g : Except ε α) : g.bind .ok = g :=
  _root_.bind_pure g

theorem optUse_some (e : Ex) : optUse (some e) = .ok e := rfl

attribute [pyflow] bind_ok bind_err optUse_some Option.isNone_none Option.isNone_some Option.isSome_none Option.isSome_some
  Bool.not_true Bool.not_false Bool.false_or Bool.or_false Bool.or_true Bool.false_eq_true
-- `↓`: the test is decided before the branches are visited, so only the live one is simplified
attribute [pyflow_proc ↓] reduceIte

theorem cur_type (ts : List Tok) : (stOf ts).current_token.type = tyBits (headType ts) := by
  rw [headType_eq_hd]
  exact tokToPy_type (hd ts)

theorem cur_value (ts : List Tok) : (stOf ts).current_token.value = (hd ts).value := rfl

theorem headType_cons (t : Tok) (r : List Tok) : headType (t :: r) = t.type := PC.headType_cons t r
theorem hd_cons (t : Tok) (r : List Tok) : hd (t :: r) = t := rfl

theorem hd_mem {ts : List Tok} (h : ts ≠ []) : hd ts ∈ ts := by
  cases ts with
  | nil => exact absurd rfl h
  | cons t r => simp [hd]

theorem check_false (ts : List Tok) (mask : Nat) :
    ExpressionParser_check (stOf ts) mask false = .ok (TokenSet_contains mask (tyBits (headType ts))) := by
  rw [ExpressionParser_check, cur_type]; rfl

theorem check_true_bind (ts : List Tok) (mask : Nat) (k : Bool → Except PyErr β) :
    (ExpressionParser_check (stOf ts) mask true).bind k =
      if (!TokenSet_contains mask (tyBits (headType ts))) = true then .error .InvalidSyntax else k true := by
  rw [ExpressionParser_check, cur_type]
  cases TokenSet_contains mask (tyBits (headType ts)) <;> rfl

theorem next_eof {ts : List Tok} (h : headType ts = .eof) : ExpressionParser_next (stOf ts) = .error .OutOfTokens := by
  simp only [ExpressionParser_next, cur_type, h, tt_consts]; rfl

theorem next_pop (cur : Token) (t : Tok) (r : List Tok) (hc : (cur.type == TOKEN_TYPES_EOF) = false) :
    ExpressionParser_next ⟨(t :: r).map tokToPy, cur⟩ = .ok (t.type != .eof, stOf (t :: r)) := by
  rw [ExpressionParser_next, hc, if_neg Bool.false_ne_true]
  simp only [pyflow, List.map_cons, listPop0, tokToPy_type, tt_consts, tyBits_bne]
  rfl

/-- the queue is not empty because the list ends with an end marker -/
theorem next_cons {t : Tok} {r : List Tok} (h : WF (t :: r)) (ht : t.type ≠ .eof) :
    ExpressionParser_next (stOf (t :: r)) = .ok (headType r != .eof, stOf r) := by
  obtain ⟨t', r', rfl⟩ := List.exists_cons_of_ne_nil (h.tail ht).ne_nil
  exact next_pop (tokToPy t) t' r'
    (by simpa only [tokToPy_type, tt_consts, tyBits_beq, beq_eq_false_iff_ne] using ht)

/-- the call by which `_parse` loads the first token; the value is what `if not self.next()` tests -/
theorem next_start (t : Tok) (r : List Tok) :
    ExpressionParser_next ⟨(t :: r).map tokToPy, ⟨[], TOKEN_TYPES_Invalid⟩⟩ =
      .ok (!(headType (t :: r) == .eof), stOf (t :: r)) :=
  next_pop _ t r rfl

end Mathy.SrcAgree
