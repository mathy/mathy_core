/-
What the heap theorems (C07 splice and construct, C13 clone, C15 rotate) share: a node seen from
either of its sides (`BT.fork`, `Cell.child`, `Cell.setChild`; `rep_fork` characterises `Rep` there),
induction along a path with each node seen from the side the path takes (`BT.path_induction`), and
the two ways `Rep` survives a change of the heap: `Rep.frame` (cells of the tree untouched) and
`Rep.reparent` (only the root knows its parent).
-/
import Mathy.Model.HeapOps
import Mathlib.Data.List.Perm.Basic
namespace Mathy
open BT

def BT.Dir.flip : Dir → Dir
  | .L => .R
  | .R => .L

theorem BT.Dir.flip_flip (d : Dir) : d.flip.flip = d := by cases d <;> rfl

def Cell.child (c : Cell) : Dir → Option Nat
  | .L => c.left
  | .R => c.right

def Cell.setChild (c : Cell) (d : Dir) (new : Option Nat) : Cell :=
  match d with
  | .L => { c with left := new }
  | .R => { c with right := new }

/-- node `i` with `x` on side `d` and `y` on the other: `set_left` and `set_right` as one case -/
def BT.fork (i : Nat) (d : Dir) (x y : BT) : BT :=
  match d with
  | .L => .node i x y
  | .R => .node i y x

@[simp] theorem BT.fork_L (i : Nat) (x y : BT) : fork i .L x y = .node i x y := rfl

@[simp] theorem BT.fork_R (i : Nat) (x y : BT) : fork i .R x y = .node i y x := rfl

theorem BT.fork_flip (i : Nat) (d : Dir) (x y : BT) : fork i d.flip x y = fork i d y x := by
  cases d <;> rfl

theorem BT.exists_fork {t : BT} {i : Nat} (d : Dir) (h : t.rootId = some i) :
    ∃ x y, t = fork i d x y := by
  cases t with
  | nil => cases h
  | node j l r => cases h; cases d <;> exact ⟨_, _, rfl⟩

theorem BT.rootId_fork (i : Nat) (d : Dir) (x y : BT) : (fork i d x y).rootId = some i := by
  cases d <;> rfl

theorem BT.ids_fork_perm (i : Nat) (d : Dir) (x y : BT) :
    (fork i d x y).ids.Perm (i :: (x.ids ++ y.ids)) := by
  cases d
  · exact List.perm_middle
  · exact List.perm_middle.trans (.cons _ List.perm_append_comm)

theorem BT.mem_ids_fork {i : Nat} {d : Dir} {x y : BT} {a : Nat} :
    a ∈ (fork i d x y).ids ↔ a = i ∨ a ∈ x.ids ∨ a ∈ y.ids := by
  rw [(ids_fork_perm i d x y).mem_iff, List.mem_cons, List.mem_append]

theorem BT.mem_ids_node {i : Nat} {l r : BT} {a : Nat} :
    a ∈ (BT.node i l r).ids ↔ a = i ∨ a ∈ l.ids ∨ a ∈ r.ids :=
  mem_ids_fork (d := .L)

theorem BT.forall_mem_ids_node {i : Nat} {l r : BT} {P : Nat → Prop} :
    (∀ a ∈ (BT.node i l r).ids, P a) ↔ P i ∧ (∀ a ∈ l.ids, P a) ∧ ∀ a ∈ r.ids, P a := by
  simp only [mem_ids_node, or_imp, forall_and, forall_eq]

theorem BT.nodup_fork {i : Nat} {d : Dir} {x y : BT} :
    (fork i d x y).ids.Nodup ↔
      i ∉ x.ids ∧ i ∉ y.ids ∧ x.ids.Nodup ∧ y.ids.Nodup ∧ ∀ a ∈ x.ids, a ∉ y.ids := by
  rw [(ids_fork_perm i d x y).nodup_iff, List.nodup_cons, List.mem_append, not_or,
    List.nodup_append, ← List.disjoint_iff_ne, List.disjoint_left, and_assoc]

theorem rep_fork {h : Heap} {i : Nat} {d : Dir} {x y : BT} {par : Option Nat} :
    Rep h (fork i d x y) par ↔
      (h i).child d = x.rootId ∧ (h i).child d.flip = y.rootId ∧ (h i).parent = par ∧
      Rep h x (some i) ∧ Rep h y (some i) := by
  cases d
  · exact Iff.rfl
  · exact ⟨fun ⟨a, b, c, rx, ry⟩ => ⟨b, a, c, ry, rx⟩,
      fun ⟨b, a, c, ry, rx⟩ => ⟨a, b, c, rx, ry⟩⟩

theorem rep_fork_of_setChild {h h' : Heap} {i : Nat} {d : Dir} {x y : BT} {par : Option Nat}
    (hi : h' i = (h i).setChild d x.rootId) (hy : (h i).child d.flip = y.rootId)
    (hpar : (h i).parent = par) (rx : Rep h' x (some i)) (ry : Rep h' y (some i)) :
    Rep h' (fork i d x y) par := by
  rw [rep_fork, hi]
  cases d <;> exact ⟨rfl, hy, hpar, rx, ry⟩

theorem BT.sub_fork (i : Nat) (d : Dir) (x y : BT) (p : Path) :
    (fork i d x y).sub (d :: p) = x.sub p := by
  cases d <;> rfl

theorem BT.replaceAt_fork (i : Nat) (d : Dir) (x y s : BT) (p : Path) :
    (fork i d x y).replaceAt (d :: p) s = fork i d (x.replaceAt p s) y := by
  cases d <;> rfl

theorem BT.rotateTop_fork (pn n : Nat) (d : Dir) (x b y : BT) :
    (fork pn d (fork n d x b) y).rotateTop d = fork n d x (fork pn d b y) := by
  cases d
  · rfl
  -- the match of `rotateTop` looks at the left child first, here `y`
  · cases y <;> rfl

theorem BT.rootId_mem {t : BT} {x : Nat} (h : t.rootId = some x) : x ∈ t.ids := by
  cases t with
  | nil => cases h
  | node i l r => cases h; exact List.mem_append_right _ List.mem_cons_self

theorem BT.sub_root (t : BT) : t.sub [] = t := by
  cases t <;> rfl

theorem BT.sub_nil (p : Path) : BT.nil.sub p = .nil := by
  cases p with
  | nil => rfl
  | cons e p => cases e <;> rfl

@[elab_as_elim]
theorem BT.path_induction {P : Path → BT → Prop} (nil : ∀ t, P [] t)
    (cons_nil : ∀ e p, P (e :: p) .nil)
    (cons_fork : ∀ e p i x y, P p x → P (e :: p) (fork i e x y)) : ∀ p t, P p t
  | [], t => nil t
  | e :: p, .nil => cons_nil e p
  | e :: p, .node i l r => by
    obtain ⟨x, y, ht⟩ := exists_fork e (t := .node i l r) rfl
    exact ht ▸ cons_fork e p i x y (path_induction nil cons_nil cons_fork p x)

theorem BT.sub_append (t : BT) (p q : Path) : t.sub (p ++ q) = (t.sub p).sub q := by
  induction p, t using path_induction with
  | nil t => rw [List.nil_append, sub_root]
  | cons_nil e p => rw [sub_nil, sub_nil, sub_nil]
  | cons_fork e p i x y ih => rw [List.cons_append, sub_fork, sub_fork, ih]

theorem BT.exists_fork_of_sub {t : BT} {d : Dir} {n : Nat} (h : (t.sub [d]).rootId = some n) :
    ∃ i x y, t = fork i d x y ∧ x.rootId = some n := by
  cases t with
  | nil => cases h
  | node i l r =>
    obtain ⟨x, y, ht⟩ := exists_fork d (t := .node i l r) rfl
    rw [ht, sub_fork, sub_root] at h
    exact ⟨i, x, y, ht, h⟩

theorem BT.sub_ids_subset (p : Path) (t : BT) : ∀ a ∈ (t.sub p).ids, a ∈ t.ids := by
  induction p, t using path_induction with
  | nil t => rw [sub_root]; exact fun _ h => h
  | cons_nil e p => rw [sub_nil]; exact fun _ h => h
  | cons_fork e p i x y ih =>
    rw [sub_fork]
    exact fun a ha => mem_ids_fork.2 (.inr (.inl (ih a ha)))

theorem BT.nodup_sub (p : Path) (t : BT) : t.ids.Nodup → (t.sub p).ids.Nodup := by
  induction p, t using path_induction with
  | nil t => rw [sub_root]; exact id
  | cons_nil e p => rw [sub_nil]; exact id
  | cons_fork e p i x y ih =>
    rw [sub_fork]
    exact fun h => ih (nodup_fork.1 h).2.2.1

theorem BT.replaceAt_root (t s : BT) : t.replaceAt [] s = s := by
  cases t <;> rfl

theorem BT.rootId_replaceAt (t s : BT) {p : Path} (hp : p ≠ []) :
    (t.replaceAt p s).rootId = t.rootId := by
  cases p with
  | nil => exact absurd rfl hp
  | cons d p => cases t <;> cases d <;> rfl

theorem BT.ids_replaceAt {t s : BT} {p : Path} (h : s.ids = (t.sub p).ids) :
    (t.replaceAt p s).ids = t.ids := by
  induction p, t using path_induction with
  | nil t => rw [replaceAt_root, h, sub_root]
  | cons_nil e p => rw [replaceAt]
  | cons_fork e p i x y ih =>
    rw [sub_fork] at h
    rw [replaceAt_fork]
    cases e <;> simp only [fork_L, fork_R, ids, ih h]

theorem BT.rotateTop_ids (t : BT) (d : Dir) : (t.rotateTop d).ids = t.ids := by
  unfold rotateTop
  split <;> simp [ids, List.append_assoc]

theorem BT.ids_fork_rotated (pn n : Nat) (d : Dir) (x b y : BT) :
    (fork n d x (fork pn d b y)).ids = (fork pn d (fork n d x b) y).ids := by
  rw [← rotateTop_fork, rotateTop_ids]

theorem BT.rotateAt_singleton (t : BT) (d : Dir) : t.rotateAt [d] = t.rotateTop d := by
  cases t <;> rfl

theorem BT.rotateAt_nil : ∀ p : Path, BT.nil.rotateAt p = .nil
  | [] => rfl
  | [d] => by cases d <;> rfl
  | _ :: _ :: _ => rfl

theorem BT.rotateAt_fork (i : Nat) (e : Dir) (x y : BT) {p : Path} (hp : p ≠ []) :
    (fork i e x y).rotateAt (e :: p) = fork i e (x.rotateAt p) y := by
  cases p with
  | nil => exact absurd rfl hp
  | cons _ _ => cases e <;> rfl

theorem BT.rotateAt_snoc (d : Dir) (p : Path) (t : BT) :
    t.rotateAt (p ++ [d]) = t.replaceAt p ((t.sub p).rotateTop d) := by
  induction p, t using path_induction with
  | nil t => rw [List.nil_append, rotateAt_singleton, replaceAt_root, sub_root]
  | cons_nil e p => rw [rotateAt_nil, replaceAt]
  | cons_fork e p i x y ih =>
    rw [List.cons_append, rotateAt_fork i e x y (by simp), ih, replaceAt_fork, sub_fork]

theorem Heap.set_ne (h : Heap) (a b : Nat) (c : Cell) (hab : b ≠ a) : (h.set a c) b = h b :=
  if_neg hab

theorem Heap.set_eq (h : Heap) (a : Nat) (c : Cell) : (h.set a c) a = c :=
  if_pos rfl

theorem Heap.setParent_ne (h : Heap) (a p : Option Nat) (x : Nat) (hx : a ≠ some x) :
    (h.setParent a p) x = h x := by
  cases a with
  | none => rfl
  | some a => exact Heap.set_ne _ _ _ _ fun e => hx (e ▸ rfl)

theorem Heap.setParent_eq (h : Heap) (p : Option Nat) (x : Nat) :
    (h.setParent (some x) p) x = { h x with parent := p } :=
  Heap.set_eq ..

theorem Rep.frame {h h' : Heap} {t : BT} {par : Option Nat} (hr : Rep h t par)
    (hf : ∀ x ∈ t.ids, h' x = h x) : Rep h' t par := by
  induction t generalizing par with
  | nil => trivial
  | node i l r ihl ihr =>
    obtain ⟨h1, h2, h3, h4, h5⟩ := hr
    obtain ⟨hi, hfl, hfr⟩ := forall_mem_ids_node.1 hf
    rw [← hi] at h1 h2 h3
    exact ⟨h1, h2, h3, ihl h4 hfl, ihr h5 hfr⟩

theorem Rep.reparent {h h' : Heap} {t : BT} {par par' : Option Nat} (hr : Rep h t par)
    (hnd : t.ids.Nodup)
    (hf : ∀ x ∈ t.ids, t.rootId ≠ some x → h' x = h x)
    (hroot : ∀ x, t.rootId = some x → h' x = { h x with parent := par' }) : Rep h' t par' := by
  cases t with
  | nil => trivial
  | node i l r =>
    obtain ⟨h1, h2, -, h4, h5⟩ := hr
    have hi := hroot i rfl
    rw [← fork_L] at hnd
    obtain ⟨hil, hir, -⟩ := nodup_fork.1 hnd
    obtain ⟨-, hfl, hfr⟩ := forall_mem_ids_node.1 hf
    refine ⟨by rw [hi]; exact h1, by rw [hi]; exact h2, by rw [hi], ?_, ?_⟩
    · exact h4.frame fun x hx => hfl x hx (by rintro ⟨rfl⟩; exact hil hx)
    · exact h5.frame fun x hx => hfr x hx (by rintro ⟨rfl⟩; exact hir hx)

/-- `n.parent = g` for the root `n` of a represented tree -/
theorem Rep.setParent {h : Heap} {t : BT} {n : Nat} {par : Option Nat} (g : Option Nat)
    (hr : Rep h t par) (hnd : t.ids.Nodup) (hn : t.rootId = some n) :
    Rep (h.setParent (some n) g) t g :=
  hr.reparent hnd (fun _ _ hne => Heap.setParent_ne _ _ _ _ (hn ▸ hne)) fun a ha => by
    cases hn.symm.trans ha
    exact Heap.setParent_eq ..

theorem Rep.sub {h : Heap} (p : Path) {t : BT} {par : Option Nat} (hr : Rep h t par) :
    ∃ g, Rep h (t.sub p) g := by
  induction p, t using path_induction generalizing par with
  | nil t => exact ⟨par, by rwa [sub_root]⟩
  | cons_nil e p => exact ⟨none, by rw [sub_nil]; trivial⟩
  | cons_fork e p i x y ih =>
    rw [sub_fork]
    exact ih (rep_fork.1 hr).2.2.2.1

end Mathy
