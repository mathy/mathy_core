/-
Fuel adequacy of the parser model: a call `parseX fuel ts` with `8 * ts.length + c_X ≤ fuel`
never answers `PErr.fuel`.  Ranks: function 1, factorsLoop 2, factors 3, unary 4, exponent 5,
mult 6, add 7, equal 8; the three operator loops 1.  Every call on the same list goes to a
strictly smaller rank, every other call is on a strictly shorter list (8 more units of budget).
That a successful call returns a shorter list (`lt_*`) is read off soundness (`PS.ih_all`): what
was consumed is a derivation, and derivations are not empty.
`powTail`, `factorsNext`, `litTail`, `unaryBody` are unfolded here, not read through their branch
equations: no branch may answer `PErr.fuel`.
-/
import Mathy.Proofs.ParserSound
namespace Mathy
namespace PF

theorem eat_bind_ne_fuel {β : Type} {ty : TT} {ts : List Tok} {f : List Tok → Except PErr β}
    (hf : ∀ ts', ts.length = ts'.length + 1 → f ts' ≠ .error .fuel) :
    (eat ty ts).bind f ≠ .error .fuel := by
  refine bind_ne_fuel (eat_ne_fuel _ _) fun ts' h => hf ts' ?_
  obtain ⟨t, rfl, -⟩ := eat_eq_ok.1 h
  rfl

theorem len_of_consumes {inp rest : List Tok} {P : List Tok → Prop}
    (h : PS.Consumes inp rest P) (hne : ∀ ts, P ts → ts ≠ []) : rest.length < inp.length := by
  obtain ⟨ts, rfl, -, hp⟩ := h
  have := List.length_pos_iff.2 (hne ts hp)
  rw [List.length_append]; omega

theorem lt_add {n inp e rest} (h : parseAdd n inp = .ok (e, rest)) :
    rest.length < inp.length :=
  len_of_consumes ((PS.ih_all n).add _ _ _ h) fun _ hp => (PC.hd_AddE hp).ne_nil

theorem lt_mult {n inp e rest} (h : parseMult n inp = .ok (e, rest)) :
    rest.length < inp.length :=
  len_of_consumes ((PS.ih_all n).mult _ _ _ h) fun _ hp => (PC.hd_MultE hp.1).ne_nil

theorem lt_exp {n inp e rest} (h : parseExponent n inp = .ok (e, rest)) :
    rest.length < inp.length :=
  len_of_consumes ((PS.ih_all n).exp _ _ _ h) fun _ hp => (PC.hd_ExpE hp).ne_nil

theorem lt_unary {n inp e rest} (h : parseUnary n inp = .ok (e, rest)) :
    rest.length < inp.length :=
  len_of_consumes ((PS.ih_all n).unary _ _ _ h) fun _ hp => (PC.hd_UnaryE hp.1).ne_nil

theorem lt_factors {n inp e rest} (h : parseFactors n inp = .ok (e, rest)) :
    rest.length < inp.length :=
  len_of_consumes ((PS.ih_all n).factors _ _ _ h) fun _ hp => (PC.hd_Factors hp.1).ne_nil

theorem lt_fn {n inp e rest} (hf : headType inp = .function)
    (h : parseFunction n inp = .ok (e, rest)) : rest.length < inp.length :=
  len_of_consumes ((PS.ih_all n).fn _ _ _ hf h) fun _ hp => (PC.hd_Prim hp).ne_nil

theorem le_fl {n acc inp rev rest} (h : factorsLoop n acc inp = .ok (rev, rest)) :
    rest.length ≤ inp.length := by
  obtain ⟨ts, rfl, -⟩ := (PS.ih_all n).fl _ _ _ _ h
  rw [List.length_append]; omega

structure FH (n : Nat) : Prop where
  fn : ∀ ts, 8 * ts.length + 1 ≤ n → parseFunction n ts ≠ .error .fuel
  fl : ∀ acc ts, 8 * ts.length + 2 ≤ n → factorsLoop n acc ts ≠ .error .fuel
  factors : ∀ ts, 8 * ts.length + 3 ≤ n → parseFactors n ts ≠ .error .fuel
  unary : ∀ ts, 8 * ts.length + 4 ≤ n → parseUnary n ts ≠ .error .fuel
  exp : ∀ ts, 8 * ts.length + 5 ≤ n → parseExponent n ts ≠ .error .fuel
  mult : ∀ ts, 8 * ts.length + 6 ≤ n → parseMult n ts ≠ .error .fuel
  multL : ∀ acc ts, 8 * ts.length + 1 ≤ n → multLoop n acc ts ≠ .error .fuel
  add : ∀ ts, 8 * ts.length + 7 ≤ n → parseAdd n ts ≠ .error .fuel
  addL : ∀ acc ts, 8 * ts.length + 1 ≤ n → addLoop n acc ts ≠ .error .fuel

section pieces
variable {n : Nat} (ih : FH n)
include ih

theorem powTail_ne_fuel {b : Ex} {ts : List Tok} (hb : 8 * ts.length ≤ n + 4) :
    powTail n b ts ≠ .error .fuel := by
  -- the caret eaten, `parse_unary` (rank 4) runs on `len - 1` tokens: `8 * (len - 1) + 4 ≤ n`
  unfold powTail
  split
  · refine eat_bind_ne_fuel fun mid heat => ?_
    split
    · simp
    · exact bind_ne_fuel (ih.unary _ (by omega)) fun _ _ => by simp
  · simp

theorem factorsNext_ne_fuel {acc : List Ex} {f : Ex} {ts : List Tok}
    (hb : 8 * ts.length + 2 ≤ n) : factorsNext n acc f ts ≠ .error .fuel := by
  unfold factorsNext
  split
  · exact ih.fl _ _ hb
  · simp

theorem litTail_ne_fuel {ce : Ex} {tl : List Tok} (hb : 8 * tl.length + 3 ≤ n) :
    litTail n ce tl ≠ .error .fuel := by
  unfold litTail
  split
  · split
    · exact eat_bind_ne_fuel fun _ _ => by simp
    · exact bind_ne_fuel (ih.factors _ hb) fun _ _ => by simp
  · simp

theorem unaryBody_ne_fuel {neg : Bool} {ts : List Tok} (hb : 8 * ts.length + 3 ≤ n) :
    unaryBody n neg ts ≠ .error .fuel := by
  unfold unaryBody
  split
  · split
    · simp
    · exact eat_bind_ne_fuel fun tl hl => litTail_ne_fuel ih (by omega)
  · split
    · exact bind_ne_fuel (ih.factors _ hb) fun _ _ => by simp
    · simp

end pieces

theorem fh_succ {n : Nat} (ih : FH n) : FH (n + 1) where
  fn ts hb := by
    rw [parseFunction_succ]
    refine eat_bind_ne_fuel fun ts1 h1 => ?_
    refine eat_bind_ne_fuel fun ts2 h2 => ?_
    refine bind_ne_fuel (ih.add _ (by omega)) fun p _ => ?_
    exact eat_bind_ne_fuel fun _ _ => by simp
  fl acc ts hb := by
    rw [factorsLoop_succ]
    split
    · refine eat_bind_ne_fuel fun ts1 h1 => ?_
      exact factorsNext_ne_fuel ih (by omega)
    split
    next hf =>
      refine bind_ne_fuel (ih.fn _ (by omega)) fun p hp => ?_
      have := lt_fn hf hp
      exact factorsNext_ne_fuel ih (by omega)
    split
    · refine eat_bind_ne_fuel fun ts1 h1 => ?_
      refine bind_ne_fuel (ih.add _ (by omega)) fun p hp => ?_
      have := lt_add hp
      refine eat_bind_ne_fuel fun ts3 h3 => ?_
      exact factorsNext_ne_fuel ih (by omega)
    · simp
  factors ts hb := by
    rw [parseFactors_succ]
    refine bind_ne_fuel (ih.fl _ _ (by omega)) fun p hp => ?_
    have := le_fl hp
    split
    · simp
    · refine bind_ne_fuel (powTail_ne_fuel ih (by omega)) fun q _ => ?_
      split <;> simp
  unary ts hb := by
    rw [parseUnary_succ]
    split
    · exact eat_bind_ne_fuel fun ts1 h1 => unaryBody_ne_fuel ih (by omega)
    · exact unaryBody_ne_fuel ih (by omega)
  exp ts hb := by
    rw [parseExponent_succ]
    split
    · simp
    · refine bind_ne_fuel (ih.unary _ (by omega)) fun p hp => ?_
      have := lt_unary hp
      exact powTail_ne_fuel ih (by omega)
  mult ts hb := by
    rw [parseMult_succ]
    split
    · simp
    · exact bind_ne_fuel (ih.exp _ (by omega)) fun p hp =>
        ih.multL _ _ (by have := lt_exp hp; omega)
  multL acc ts hb := by
    rw [multLoop_succ]
    split
    · refine eat_bind_ne_fuel fun ts1 h1 => ?_
      split
      · split
        · exact bind_ne_fuel (ih.exp _ (by omega)) fun p hp =>
            ih.multL _ _ (by have := lt_exp hp; omega)
        · exact bind_ne_fuel (ih.mult _ (by omega)) fun p hp =>
            ih.multL _ _ (by have := lt_mult hp; omega)
      · simp
    · simp
  add ts hb := by
    rw [parseAdd_succ]
    split
    · simp
    · exact bind_ne_fuel (ih.mult _ (by omega)) fun p hp =>
        ih.addL _ _ (by have := lt_mult hp; omega)
  addL acc ts hb := by
    rw [addLoop_succ]
    split
    · refine eat_bind_ne_fuel fun ts1 h1 => ?_
      split
      · exact bind_ne_fuel (ih.mult _ (by omega)) fun p hp =>
          ih.addL _ _ (by have := lt_mult hp; omega)
      · simp
    · simp

theorem fh_all : ∀ n, FH n
  | 0 => by constructor <;> intros <;> omega
  | n + 1 => fh_succ (fh_all n)

theorem equalLoop_ne_fuel : ∀ (n : Nat) (acc : Ex) (ts : List Tok), 8 * ts.length + 1 ≤ n →
    equalLoop n acc ts ≠ .error .fuel
  | 0, _, _, hb => by omega
  | n + 1, acc, ts, hb => by
    rw [equalLoop_succ]
    split
    · refine eat_bind_ne_fuel fun ts1 h1 => ?_
      split
      · exact bind_ne_fuel ((fh_all n).add _ (by omega)) fun p hp =>
          equalLoop_ne_fuel n _ _ (by have := lt_add hp; omega)
      · simp
    · simp

theorem parseEqual_ne_fuel (n : Nat) (ts : List Tok) (hb : 8 * ts.length + 8 ≤ n) :
    parseEqual n ts ≠ .error .fuel := by
  obtain _ | n := n
  · omega
  rw [parseEqual_succ]
  split
  · simp
  · exact bind_ne_fuel ((fh_all n).add _ (by omega)) fun p hp =>
      equalLoop_ne_fuel n _ _ (by have := lt_add hp; omega)

end PF
end Mathy
