/-
Lemmas about the tokenizer model (`Model/Tok.lean`).  The three branches of `tokenizeAux` are read
as one step, "emit the tokens of the lexeme at the front, go on behind it" (`tokBody_cons`), with
an induction principle that follows it (`lex_induction`); `operatorTok` is a lookup in a table
(`operatorTok_eq`), so that a fact about operator tokens is a fact about sixteen rows.
-/
import Mathy.Model.Tok
import Mathlib.Tactic.SplitIfs
import Mathlib.Data.List.Basic
namespace Mathy

/-- the three documented normalisations -/
def normChar (c : Char) : Char :=
  if c == '–' then '-' else if c == '[' then '(' else if c == ']' then ')' else c

/-- the characters that can start a token; a string tokenizes iff all of its characters are (`C11_error_iff`) -/
def supported (c : Char) : Bool := isNumber c || isAlpha c || (operatorTok true c).isSome

/-- the tokens before the end marker -/
def tokBody (pad : Bool) (s : List Char) : Except Char (List Tok) := tokenizeAux pad (s.length + 1) s

theorem length_dropWhile_le {α : Type} (p : α → Bool) (l : List α) :
    (l.dropWhile p).length ≤ l.length := (List.dropWhile_sublist p).length_le

theorem takeWhile_false {α : Type} (l : List α) : l.takeWhile (fun _ => false) = [] := by
  cases l <;> rfl

theorem dropWhile_false {α : Type} (l : List α) : l.dropWhile (fun _ => false) = l := by
  cases l <;> rfl

theorem takeWhile_dropWhile_run {α : Type} (p : α → Bool) (run rest : List α)
    (hrun : ∀ c ∈ run, p c = true) (hrest : ∀ c, rest.head? = some c → p c = false) :
    (run ++ rest).takeWhile p = run ∧ (run ++ rest).dropWhile p = rest := by
  induction run with
  | nil =>
    cases rest with
    | nil => simp
    | cons d ds =>
      have := hrest d rfl
      simp [this]
  | cons a as ih =>
    have ha := hrun a (by simp)
    have := ih (fun c hc => hrun c (by simp [hc]))
    simp [ha, this]

theorem find?_dropWhile {α : Type} (p q : α → Bool) (l : List α)
    (h : ∀ x, q x = true → p x = false) : (l.dropWhile q).find? p = l.find? p := by
  induction l with
  | nil => rfl
  | cons a as ih =>
    cases hq : q a with
    | true => simp [List.dropWhile, hq, h a hq, ih]
    | false => simp [List.dropWhile, hq]

theorem find?_not_eq_some_iff {α : Type} (p : α → Bool) (l : List α) (c : α) :
    l.find? (fun d => !p d) = some c ↔
      ∃ pre post, l = pre ++ c :: post ∧ (∀ d ∈ pre, p d = true) ∧ p c = false := by
  rw [List.find?_eq_some_iff_append]
  constructor
  · rintro ⟨hc, pre, post, rfl, hpre⟩
    exact ⟨pre, post, rfl, fun d hd => by simpa using hpre d hd, by simpa using hc⟩
  · rintro ⟨pre, post, rfl, hpre, hc⟩
    exact ⟨by simpa using hc, pre, post, rfl, fun d hd => by simpa using hpre d hd⟩

theorem exceptMatch_eq_map {α β ε : Type} (r : Except ε α) (f : α → β) :
    (match r with | .ok ts => Except.ok (f ts) | .error e => .error e) = r.map f := by
  cases r <;> rfl

theorem map_eq_ok_iff {α β ε : Type} (f : α → β) (r : Except ε α) (y : β) :
    r.map f = .ok y ↔ ∃ x, r = .ok x ∧ y = f x := by
  cases r with
  | error e => simp [Except.map]
  | ok x =>
    simp only [Except.map, Except.ok.injEq, exists_eq_left']
    exact eq_comm

theorem map_eq_error_iff {α β ε : Type} (f : α → β) (r : Except ε α) (e : ε) :
    r.map f = .error e ↔ r = .error e := by
  cases r <;> simp [Except.map]

/-- the characters that continue the lexeme `c` starts (none after an operator: it is one character) -/
def lexClass (c : Char) : Char → Bool :=
  if isNumber c then isNumber else if isAlpha c then isAlpha else fun _ => false

/-- the tokens of the lexeme `c :: run`; `none`: `c` starts no token -/
def lexToks (pad : Bool) (c : Char) (run : List Char) : Option (List Tok) :=
  if isNumber c then some [⟨.constant, c :: run⟩]
  else if isAlpha c then some (alphaToks (c :: run))
  else operatorTok pad c

def lexStep (c : Char) (t : Option (List Tok)) (r : Except Char (List Tok)) : Except Char (List Tok) :=
  match t with
  | none => .error c
  | some t => r.map (t ++ ·)

theorem lexStep_eq_ok_iff (c : Char) (t : Option (List Tok)) (r : Except Char (List Tok)) (ts : List Tok) :
    lexStep c t r = .ok ts ↔ ∃ t' ts', t = some t' ∧ r = .ok ts' ∧ ts = t' ++ ts' := by
  cases t with
  | none => simp [lexStep]
  | some t => simp [lexStep, map_eq_ok_iff]

theorem tokenizeAux_succ_cons (pad : Bool) (fuel : Nat) (c : Char) (cs : List Char) :
    tokenizeAux pad (fuel + 1) (c :: cs) =
      lexStep c (lexToks pad c (cs.takeWhile (lexClass c)))
        (tokenizeAux pad fuel (cs.dropWhile (lexClass c))) := by
  rw [tokenizeAux, lexToks, lexClass]
  split_ifs with h1 h2
  · simp only [List.takeWhile, List.dropWhile, h1, lexStep]
    generalize tokenizeAux pad fuel _ = r
    cases r <;> rfl
  · simp only [List.takeWhile, List.dropWhile, h2, lexStep]
    generalize tokenizeAux pad fuel _ = r
    cases r <;> rfl
  · rw [dropWhile_false]
    cases operatorTok pad c with
    | none => rfl
    | some t =>
      simp only [lexStep]
      generalize tokenizeAux pad fuel _ = r
      cases r <;> rfl

theorem tokenizeAux_nil (pad : Bool) (fuel : Nat) : tokenizeAux pad fuel [] = .ok [] := by
  cases fuel <;> rfl

theorem tokenizeAux_fuel (pad : Bool) : ∀ (f1 f2 : Nat) (s : List Char),
    s.length < f1 → s.length < f2 → tokenizeAux pad f1 s = tokenizeAux pad f2 s := by
  intro f1
  induction f1 with
  | zero => intro f2 s h; omega
  | succ f1 ih =>
    intro f2 s h1 h2
    cases f2 with
    | zero => omega
    | succ f2 =>
      cases s with
      | nil => rfl
      | cons c cs =>
        simp only [List.length_cons] at h1 h2
        have hl := length_dropWhile_le (lexClass c) cs
        rw [tokenizeAux_succ_cons, tokenizeAux_succ_cons, ih f2 _ (by omega) (by omega)]

theorem tokenize_eq (pad : Bool) (s : List Char) :
    tokenize pad s = (tokBody pad s).map (· ++ [⟨.eof, []⟩]) := by
  unfold tokenize tokBody
  cases tokenizeAux pad (s.length + 1) s <;> rfl

theorem tokBody_nil (pad : Bool) : tokBody pad [] = .ok [] := rfl

theorem tokBody_cons (pad : Bool) (c : Char) (cs : List Char) :
    tokBody pad (c :: cs) =
      lexStep c (lexToks pad c (cs.takeWhile (lexClass c))) (tokBody pad (cs.dropWhile (lexClass c))) := by
  have hl := length_dropWhile_le (lexClass c) cs
  unfold tokBody
  rw [List.length_cons, tokenizeAux_succ_cons,
    tokenizeAux_fuel pad (cs.length + 1) ((cs.dropWhile (lexClass c)).length + 1) _ (by omega) (by omega)]

theorem lex_induction {P : List Char → Prop} (nil : P [])
    (cons : ∀ c cs, P (cs.dropWhile (lexClass c)) → P (c :: cs)) : ∀ s, P s := by
  intro s
  induction hn : s.length using Nat.strongRecOn generalizing s with
  | _ n ih =>
    cases s with
    | nil => exact nil
    | cons c cs =>
      have hl := length_dropWhile_le (lexClass c) cs
      exact cons c cs (ih _ (by simp only [← hn, List.length_cons]; omega) _ rfl)

theorem isNumber_of_isAlpha {c : Char} (h : isAlpha c = true) : isNumber c = false := by
  -- as code points: the letters are at least 65, the digits and the dot at most 57
  simp only [isNumber, isAlpha, Bool.or_eq_true, Bool.and_eq_true, decide_eq_true_eq,
    Bool.or_eq_false_iff, Bool.and_eq_false_iff, decide_eq_false_iff_not, beq_eq_false_iff_ne, ne_eq,
    Char.le_def, UInt32.le_iff_toNat_le, Char.ext_iff, ← UInt32.toNat_inj, Char.reduceVal,
    UInt32.reduceToNat] at h ⊢
  omega

theorem lexClass_number {c : Char} (h : isNumber c = true) : lexClass c = isNumber := by
  rw [lexClass, if_pos h]

theorem lexToks_number {c : Char} (h : isNumber c = true) (pad : Bool) (run : List Char) :
    lexToks pad c run = some [⟨.constant, c :: run⟩] := by
  rw [lexToks, if_pos h]

theorem lexClass_alpha {c : Char} (h : isAlpha c = true) : lexClass c = isAlpha := by
  rw [lexClass, isNumber_of_isAlpha h, if_neg Bool.false_ne_true, if_pos h]

theorem lexToks_alpha {c : Char} (h : isAlpha c = true) (pad : Bool) (run : List Char) :
    lexToks pad c run = some (alphaToks (c :: run)) := by
  rw [lexToks, isNumber_of_isAlpha h, if_neg Bool.false_ne_true, if_pos h]

theorem lexClass_other {c : Char} (hn : isNumber c = false) (ha : isAlpha c = false) :
    lexClass c = fun _ => false := by
  rw [lexClass, hn, ha, if_neg Bool.false_ne_true, if_neg Bool.false_ne_true]

theorem lexToks_other {c : Char} (hn : isNumber c = false) (ha : isAlpha c = false) (pad : Bool)
    (run : List Char) : lexToks pad c run = operatorTok pad c := by
  rw [lexToks, hn, ha, if_neg Bool.false_ne_true, if_neg Bool.false_ne_true]

theorem lex_cases (c : Char) :
    isNumber c = true ∨ isAlpha c = true ∨ isNumber c = false ∧ isAlpha c = false := by
  cases isNumber c with
  | true => exact .inl rfl
  | false =>
    cases isAlpha c with
    | true => exact .inr (.inl rfl)
    | false => exact .inr (.inr ⟨rfl, rfl⟩)

theorem alphaToks_values (run : List Char) : ((alphaToks run).map (·.value)).flatten = run := by
  unfold alphaToks
  split_ifs
  · simp
  · rw [List.map_map, ← List.flatMap_def]
    exact List.flatMap_singleton' run

theorem alphaToks_type (run : List Char) :
    ∀ t ∈ alphaToks run, t.type = .function ∨ t.type = .variable := by
  unfold alphaToks
  split_ifs
  · simp
  · intro t ht
    simp only [List.mem_map] at ht
    obtain ⟨c, _, rfl⟩ := ht
    exact Or.inr rfl

theorem tokBody_lexeme (pad : Bool) (c : Char) (run rest : List Char)
    (hrun : ∀ d ∈ run, lexClass c d = true) (hrest : ∀ d, rest.head? = some d → lexClass c d = false) :
    tokBody pad (c :: (run ++ rest)) = lexStep c (lexToks pad c run) (tokBody pad rest) := by
  obtain ⟨h1, h2⟩ := takeWhile_dropWhile_run (lexClass c) run rest hrun hrest
  rw [tokBody_cons, h1, h2]

/-- the characters `identify_operators` accepts, with the token each one stands for -/
def opTable : List (Char × Tok) :=
  [(' ', ⟨.pad, [' ']⟩), ('\t', ⟨.pad, ['\t']⟩), ('\r', ⟨.pad, ['\r']⟩), ('\n', ⟨.pad, ['\n']⟩),
   ('+', ⟨.plus, ['+']⟩), ('-', ⟨.minus, ['-']⟩), ('–', ⟨.minus, ['-']⟩), ('*', ⟨.multiply, ['*']⟩),
   ('/', ⟨.divide, ['/']⟩), ('^', ⟨.exponent, ['^']⟩), ('!', ⟨.factorial, ['!']⟩),
   ('(', ⟨.openParen, ['(']⟩), ('[', ⟨.openParen, ['(']⟩), (')', ⟨.closeParen, [')']⟩),
   (']', ⟨.closeParen, [')']⟩), ('=', ⟨.equal, ['=']⟩)]

theorem lookup_cons_ite {β : Type} (c k : Char) (v : β) (l : List (Char × β)) :
    List.lookup c ((k, v) :: l) = if c == k then some v else List.lookup c l := by
  rw [List.lookup_cons]; cases c == k <;> rfl

theorem mem_of_lookup {α β : Type} [BEq α] [LawfulBEq α] {a : α} {b : β} {l : List (α × β)}
    (h : l.lookup a = some b) : (a, b) ∈ l := by
  obtain ⟨l₁, l₂, rfl, _⟩ := List.lookup_eq_some_iff.1 h
  simp

theorem operatorTok_eq (pad : Bool) (c : Char) :
    operatorTok pad c = (opTable.lookup c).map fun x => [x].filter fun x => pad || x.type != .pad := by
  by_cases hs : (c == ' ' || c == '\t' || c == '\r' || c == '\n') = true
  · simp only [Bool.or_eq_true, beq_iff_eq] at hs
    rcases hs with ((rfl | rfl) | rfl) | rfl <;> cases pad <;> rfl
  · unfold operatorTok opTable
    rw [if_neg hs]
    simp only [Bool.or_eq_true, not_or, Bool.not_eq_true] at hs
    -- `split_ifs` on the chain of conditions takes time exponential in its length; rewriting the
    -- lookup into the same chain is linear, and what is left is two closed terms for each `pad`
    simp only [Bool.or_eq_true, ite_or, lookup_cons_ite, hs, Bool.false_eq_true, if_false, List.lookup_nil,
      apply_ite (Option.map _), Option.map_some, Option.map_none]
    cases pad <;> rfl

theorem operatorTok_mem {pad : Bool} {c : Char} {t : List Tok} (h : operatorTok pad c = some t)
    {x : Tok} (hx : x ∈ t) : (c, x) ∈ opTable := by
  rw [operatorTok_eq, Option.map_eq_some_iff] at h
  obtain ⟨y, hy, rfl⟩ := h
  obtain rfl := List.mem_singleton.1 (List.mem_filter.1 hx).1
  exact mem_of_lookup hy

theorem operatorTok_false (c : Char) :
    operatorTok false c = (operatorTok true c).map (fun ts => ts.filter (fun t => t.type != .pad)) := by
  rw [operatorTok_eq, operatorTok_eq, Option.map_map]
  rfl

theorem operatorTok_isSome (pad : Bool) (c : Char) :
    (operatorTok pad c).isSome = (operatorTok true c).isSome := by
  rw [operatorTok_eq, operatorTok_eq, Option.isSome_map, Option.isSome_map]

theorem tokBody_forall {P : Tok → Prop} (hnum : ∀ run, run ≠ [] → P ⟨.constant, run⟩)
    (halpha : ∀ run, run ≠ [] → ∀ x ∈ alphaToks run, P x) (hop : ∀ p ∈ opTable, P p.2)
    (pad : Bool) (s : List Char) : ∀ ts, tokBody pad s = .ok ts → ∀ x ∈ ts, P x := by
  induction s using lex_induction with
  | nil => intro ts h x hx; cases h; cases hx
  | cons c cs ih =>
    intro ts h x hx
    rw [tokBody_cons, lexStep_eq_ok_iff] at h
    obtain ⟨t, ts', ht, hts, rfl⟩ := h
    rcases List.mem_append.1 hx with hx | hx
    · rcases lex_cases c with hn | ha | ⟨hn, ha⟩
      · rw [lexToks_number hn] at ht; cases ht
        obtain rfl := List.mem_singleton.1 hx
        exact hnum _ (List.cons_ne_nil _ _)
      · rw [lexToks_alpha ha] at ht; cases ht
        exact halpha _ (List.cons_ne_nil _ _) x hx
      · rw [lexToks_other hn ha] at ht
        exact hop _ (operatorTok_mem ht hx)
    · exact ih ts' hts x hx

theorem tokBody_not_eof (pad : Bool) (s : List Char) :
    ∀ body, tokBody pad s = .ok body → ∀ t ∈ body, t.type ≠ .eof :=
  tokBody_forall (fun _ _ => TT.noConfusion)
    (fun run _ x hx => by rcases alphaToks_type run x hx with h | h <;> simp [h]) (by decide) pad s

theorem lexToks_isSome (pad : Bool) (c : Char) (run : List Char) :
    (lexToks pad c run).isSome = supported c := by
  rcases lex_cases c with hn | ha | ⟨hn, ha⟩
  · simp [lexToks_number hn, supported, hn]
  · simp [lexToks_alpha ha, supported, ha]
  · simp [lexToks_other hn ha, supported, hn, ha, operatorTok_isSome pad]

theorem class_of_lexClass {c d : Char} (h : lexClass c d = true) :
    isNumber d = true ∨ isAlpha d = true := by
  rcases lex_cases c with hn | ha | ⟨hn, ha⟩
  · exact .inl (lexClass_number hn ▸ h)
  · exact .inr (lexClass_alpha ha ▸ h)
  · rw [lexClass_other hn ha] at h; cases h

theorem tokBody_error_iff (pad : Bool) (s : List Char) (e : Char) :
    tokBody pad s = .error e ↔ s.find? (fun d => !supported d) = some e := by
  induction s using lex_induction with
  | nil => simp [tokBody_nil]
  | cons c cs ih =>
    rw [tokBody_cons, List.find?_cons, ← lexToks_isSome pad c (cs.takeWhile (lexClass c))]
    cases lexToks pad c _ with
    | none => simp [lexStep]
    | some t =>
      simp only [lexStep, map_eq_error_iff, ih, Option.isSome_some, Bool.not_true]
      rw [find?_dropWhile _ (lexClass c) cs (fun x hx => by
        rcases class_of_lexClass hx with h | h <;> simp [supported, h])]

theorem lexToks_false (c : Char) (run : List Char) :
    lexToks false c run = (lexToks true c run).map (fun ts => ts.filter (fun t => t.type != .pad)) := by
  rcases lex_cases c with hn | ha | ⟨hn, ha⟩
  · rw [lexToks_number hn, lexToks_number hn]; rfl
  · rw [lexToks_alpha ha, lexToks_alpha ha]
    refine congrArg some (List.filter_eq_self.2 fun t ht => ?_).symm
    rcases alphaToks_type _ t ht with h | h <;> simp [h]
  · rw [lexToks_other hn ha, lexToks_other hn ha]; exact operatorTok_false c

theorem tokBody_nopad (s : List Char) :
    tokBody false s = (tokBody true s).map (fun ts => ts.filter (fun t => t.type != .pad)) := by
  induction s using lex_induction with
  | nil => rfl
  | cons c cs ih =>
    rw [tokBody_cons, tokBody_cons, lexToks_false, ih]
    cases lexToks true c _ with
    | none => rfl
    | some t => cases tokBody true _ <;> simp [lexStep, Except.map]

theorem normChar_of_class {c : Char} (h : isNumber c = true ∨ isAlpha c = true) : normChar c = c := by
  unfold normChar
  split_ifs with h1 h2 h3
  · rw [beq_iff_eq] at h1; subst h1; exact absurd h (by decide)
  · rw [beq_iff_eq] at h2; subst h2; exact absurd h (by decide)
  · rw [beq_iff_eq] at h3; subst h3; exact absurd h (by decide)
  · rfl

theorem operatorTok_values (c : Char) (t : List Tok) (h : operatorTok true c = some t) :
    (t.map (·.value)).flatten = [normChar c] := by
  rw [operatorTok_eq, Option.map_eq_some_iff] at h
  obtain ⟨x, hx, rfl⟩ := h
  show x.value ++ [] = [normChar c]
  rw [List.append_nil]
  exact (by decide : ∀ p ∈ opTable, p.2.value = [normChar p.1]) _ (mem_of_lookup hx)

theorem lexToks_values (c : Char) (cs : List Char) (t : List Tok)
    (h : lexToks true c (cs.takeWhile (lexClass c)) = some t) :
    (t.map (·.value)).flatten = (c :: cs.takeWhile (lexClass c)).map normChar := by
  have hrun : (cs.takeWhile (lexClass c)).map normChar = cs.takeWhile (lexClass c) :=
    (List.map_congr_left fun d hd =>
      normChar_of_class (class_of_lexClass (List.all_eq_true.1 List.all_takeWhile d hd))).trans
      (List.map_id' _)
  rw [List.map_cons, hrun]
  rcases lex_cases c with hn | ha | ⟨hn, ha⟩
  · rw [lexToks_number hn] at h; cases h
    simp [normChar_of_class (.inl hn)]
  · rw [lexToks_alpha ha] at h; cases h
    simp [alphaToks_values, normChar_of_class (.inr ha)]
  · rw [lexToks_other hn ha] at h
    rw [lexClass_other hn ha, takeWhile_false]
    exact operatorTok_values c t h

theorem tokBody_lossless (s : List Char) :
    ∀ ts, tokBody true s = .ok ts → (ts.map (·.value)).flatten = s.map normChar := by
  induction s using lex_induction with
  | nil => intro ts h; cases h; rfl
  | cons c cs ih =>
    intro ts h
    rw [tokBody_cons, lexStep_eq_ok_iff] at h
    obtain ⟨t, ts', ht, hts, rfl⟩ := h
    conv_rhs => rw [← List.takeWhile_append_dropWhile (p := lexClass c) (l := cs)]
    simp only [List.map_append, List.flatten_append, lexToks_values c cs t ht, ih ts' hts,
      List.map_cons, List.cons_append]

end Mathy
