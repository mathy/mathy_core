/-
The printer model by itself (`Model/Print.lean`, `Model/PrintStr.lean`): which trees are compact products, the equation
of `printToks` / `strChars` at a binary node, the one pair of parentheses a context adds (`printToks_ctx`), and that
printing ignores identities (`printToks_erase`).  `PP` is the namespace `Proofs/PrintParse.lean` continues.
-/
import Mathy.Model.PrintStr
import Mathy.Proofs.ExLemmas
namespace Mathy

namespace PP

theorem isCompactProduct_cases {e : Ex} (h : isCompactProduct e = true) :
    (∃ t tc c tx x, e = .bin t .mul (.const tc c) (.var tx x)) ∨
    (∃ t tc c tp tx x k, e = .bin t .mul (.const tc c) (.bin tp .pow (.var tx x) k)) := by
  unfold isCompactProduct at h
  split at h
  · exact .inl ⟨_, _, _, _, _, rfl⟩
  · exact .inr ⟨_, _, _, _, _, _, _, rfl⟩
  · cases h

theorem strChars_bin (nt : Rat → List Char) (p : Option (Bop × Side)) (t : Nat) (o : Bop) (l r : Ex)
    (ho : o ≠ .pow) :
    strChars nt p (.bin t o l r) =
      if isCompactProduct (.bin t o l r) then
        strChars nt (some (o, .left)) l ++ strChars nt (some (o, .right)) r
      else
        parensC (selfParens o p)
          (strChars nt (some (o, .left)) l ++ ' ' :: opChar o :: ' ' :: strChars nt (some (o, .right)) r) := by
  cases o with
  | pow => exact absurd rfl ho
  | _ => simp only [strChars]

theorem printToks_bin (nt : Rat → List Char) (p : Option (Bop × Side)) (t : Nat) (o : Bop) (l r : Ex)
    (ho : o ≠ .pow) :
    printToks nt p (.bin t o l r) =
      if isCompactProduct (.bin t o l r) then
        printToks nt (some (o, .left)) l ++ printToks nt (some (o, .right)) r
      else
        parens (selfParens o p)
          (printToks nt (some (o, .left)) l ++ opTok o :: printToks nt (some (o, .right)) r) := by
  cases o with
  | pow => exact absurd rfl ho
  | _ => simp only [printToks]

theorem strChars_pow_var (nt : Rat → List Char) (p : Option (Bop × Side)) (t tx : Nat) (x : Char) (k : Ex) :
    strChars nt p (.bin t .pow (.var tx x) k) =
      x :: '^' :: parensC (k.isOp .pow) (strChars nt (some (.pow, .right)) k) := rfl

@[simp] theorem parens_true (ts : List Tok) :
    parens true ts = tk .openParen "(" :: ts ++ [tk .closeParen ")"] := rfl
@[simp] theorem parens_false (ts : List Tok) : parens false ts = ts := rfl

theorem selfParens_none (o : Bop) : selfParens o none = false := rfl

@[simp] theorem compact_add (t : Nat) (l r : Ex) : isCompactProduct (.bin t .add l r) = false := rfl
@[simp] theorem compact_sub (t : Nat) (l r : Ex) : isCompactProduct (.bin t .sub l r) = false := rfl
@[simp] theorem compact_div (t : Nat) (l r : Ex) : isCompactProduct (.bin t .div l r) = false := rfl
@[simp] theorem compact_pow (t : Nat) (l r : Ex) : isCompactProduct (.bin t .pow l r) = false := rfl
@[simp] theorem compact_eq (t : Nat) (l r : Ex) : isCompactProduct (.bin t .eq l r) = false := rfl
@[simp] theorem compact_un (t : Nat) (o : Uop) (c : Ex) : isCompactProduct (.un t o c) = false := rfl
@[simp] theorem compact_const (t : Nat) (v : Rat) : isCompactProduct (.const t v) = false := rfl
@[simp] theorem compact_var (t : Nat) (x : Char) : isCompactProduct (.var t x) = false := rfl

theorem compact_false_of_ne_mul (t : Nat) (o : Bop) (l r : Ex) (ho : o ≠ .mul) :
    isCompactProduct (.bin t o l r) = false := by
  cases o with
  | mul => exact absurd rfl ho
  | _ => rfl

/-- the parentheses `PowerExpression.__str__` adds on its own account -/
def extra : Bop → Side → Ex → Bool
  | .pow, .left, l => powerBaseNeedsParens l
  | .pow, .right, r => r.isOp .pow
  | _, _, _ => false

/-- the parentheses `self_parens` adds under `ctx`; a power and a compact product do not call it -/
def wrapCtx (ctx : Option (Bop × Side)) : Ex → Bool
  | e@(.bin _ o _ _) => if o = .pow then false else !isCompactProduct e && selfParens o ctx
  | _ => false

theorem wrapCtx_bin {t : Nat} {o : Bop} {l r : Ex} (ctx : Option (Bop × Side)) (hp : o ≠ .pow)
    (hc : isCompactProduct (.bin t o l r) = false) : wrapCtx ctx (.bin t o l r) = selfParens o ctx := by
  simp only [wrapCtx, if_neg hp, hc, Bool.not_false, Bool.true_and]

section
variable (nt : Rat → List Char)

theorem printToks_ctx (ctx : Option (Bop × Side)) (e : Ex) :
    printToks nt ctx e = parens (wrapCtx ctx e) (printToks nt none e) := by
  cases e with
  | const t v => rfl
  | var t v => rfl
  | un t o c => cases o <;> rfl
  | bin t o l r =>
    by_cases ho : o = .pow
    · subst ho; rfl
    · -- only a product can be compact (`4x`), and then it prints the same under every parent
      rw [printToks_bin nt ctx t o l r ho, printToks_bin nt none t o l r ho, wrapCtx, if_neg ho]
      cases isCompactProduct (.bin t o l r) <;> rfl

/-- the operand `c` as printed on side `s` of a `p` node, the `extra` pair included -/
def arg (p : Bop) (s : Side) (c : Ex) : List Tok :=
  parens (extra p s c) (printToks nt (some (p, s)) c)

theorem print_bin (t : Nat) (o : Bop) (l r : Ex) :
    printToks nt none (.bin t o l r) =
      arg nt o .left l ++
        (if isCompactProduct (.bin t o l r) then arg nt o .right r else opTok o :: arg nt o .right r) := by
  cases o
  case pow => rfl
  all_goals
    rw [printToks_bin nt none _ _ _ _ (by decide), selfParens_none]
    simp only [arg, extra, parens_false]
    split <;> rfl

theorem print_eq (t : Nat) (l r : Ex) :
    printToks nt none (.bin t .eq l r) =
      printToks nt none l ++ opTok .eq :: printToks nt none r := by
  have h (s : Side) (c : Ex) : arg nt .eq s c = printToks nt none c := by
    have : wrapCtx (some (.eq, s)) c = false := by
      cases c with
      | bin t o l r =>
        have : selfParens o (some (.eq, s)) = false := by cases o <;> cases s <;> rfl
        simp [wrapCtx, this]
      | _ => rfl
    rw [arg, printToks_ctx, this]; rfl
  rw [print_bin, if_neg (by simp), h, h]

end

end PP

@[simp] theorem erase_isCompactProduct (e : Ex) : isCompactProduct e.erase = isCompactProduct e := by
  cases e with
  | bin t o l r =>
    cases o with
    | mul =>
      cases l with
      | const tc c =>
        cases r with
        | bin t2 o2 l2 r2 => cases o2 <;> cases l2 <;> rfl
        | _ => rfl
      | _ => rfl
    | _ => rfl
  | _ => rfl

@[simp] theorem erase_powerBaseNeedsParens (e : Ex) :
    powerBaseNeedsParens e.erase = powerBaseNeedsParens e := by
  simp only [powerBaseNeedsParens, erase_isUn, erase_isOp, erase_isCompactProduct]

@[simp] theorem erase_negateNeedsParens (e : Ex) : negateNeedsParens e.erase = negateNeedsParens e := by
  cases e with
  | const | var => rfl
  | un t o c => cases o <;> rfl
  | bin t o l r =>
    -- two arms look below the root: a product with a constant on the left asks `isCompactProduct` of the
    -- node, a power the kind of its base
    cases o with
    | mul =>
      cases l with
      | const t2 v =>
        have h := erase_isCompactProduct (.bin t .mul (.const t2 v) r)
        simp only [Ex.erase] at h
        simp only [negateNeedsParens, Ex.erase, h]
      | _ => rfl
    | pow => simp only [negateNeedsParens, Ex.erase, erase_isConst, erase_isUn]
    | _ => rfl

theorem printToks_erase (nt : Rat → List Char) (p : Option (Bop × Side)) (e : Ex) :
    printToks nt p e.erase = printToks nt p e := by
  -- every predicate the printer consults is unchanged by `erase`
  induction e generalizing p with
  | const t v => rfl
  | var t x => rfl
  | un t o c ih =>
    cases o <;> simp only [Ex.erase, printToks, ih, erase_negateNeedsParens]
  | bin t o l r ihl ihr =>
    have hc := erase_isCompactProduct (.bin t o l r)
    simp only [Ex.erase] at hc
    by_cases ho : o = .pow
    · subst ho
      simp only [Ex.erase, printToks, ihl, ihr, erase_powerBaseNeedsParens, erase_isOp]
    · rw [Ex.erase, PP.printToks_bin _ _ _ _ _ _ ho, PP.printToks_bin _ _ _ _ _ _ ho, ihl, ihr, hc]

end Mathy
