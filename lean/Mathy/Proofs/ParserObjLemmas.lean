/-
History independence of the parser object (C12).  The invariant `PInv`: a cached token list is
the fresh tokenization of its key and sits in a heap cell that no client holds (the client is
handed a copy in a new cell), and a cached tree is the fresh parse of its key.  So whatever a
client does to the lists it holds (`setHanded`) leaves the caches true, and every operation
answers as a fresh parser does (`runOps_fresh`).
-/
import Mathy.Model.ParserObj
namespace Mathy

structure PInv (st : PState) (handed : List Nat) : Prop where
  tok : ∀ s (r : Nat), lookup s st.tokCache = some r →
    r < st.heap.length ∧ tokenize false s = .ok (st.heap.getD r []) ∧ r ∉ handed
  parse : ∀ s e, lookup s st.parseCache = some e → parseText s = .tree e
  handed : ∀ r ∈ handed, (r : Nat) < st.heap.length

theorem PInv.init : PInv PState.init [] := ⟨nofun, nofun, nofun⟩

theorem PInv.clear {st handed} (h : PInv st handed) : PInv st.clearOp handed := ⟨nofun, nofun, h.handed⟩

theorem PInv.setHanded {st handed} (h : PInv st handed) (r : Nat) (l : List Tok) (hr : r ∈ handed) :
    PInv { st with heap := st.heap.set r l } handed := by
  constructor
  · intro s r' hl
    obtain ⟨h1, h2, h3⟩ := h.tok s r' hl
    have hne : r ≠ r' := by rintro rfl; exact h3 hr
    refine ⟨by simpa using h1, ?_, h3⟩
    rw [h2]
    simp [List.getD_eq_getElem?_getD, List.getElem?_set_ne hne]
  · exact h.parse
  · intro r' hr'; simpa using h.handed r' hr'

theorem PInv.dropLast {st : PState} {handed : List Nat} {r : Nat} (h : PInv st (handed ++ [r])) : PInv st handed := by
  constructor
  · intro s r' hl
    obtain ⟨h1, h2, h3⟩ := h.tok s r' hl
    exact ⟨h1, h2, fun hm => h3 (by simp [hm])⟩
  · exact h.parse
  · intro r' hr'; exact h.handed r' (by simp [hr'])

theorem PInv.consume {st handed} (h : PInv st handed) (r : Nat) (n : Nat) (hr : r ∈ handed) :
    PInv (st.consumeOp r n) handed :=
  h.setHanded r _ hr

theorem PState.alloc_heap (st : PState) (l : List Tok) : (st.alloc l).1.heap = st.heap ++ [l] := rfl

theorem PState.alloc_ref (st : PState) (l : List Tok) : (st.alloc l).2 = st.heap.length := rfl

/-- a new list object, handed out: the cached references are older -/
theorem PInv.alloc {st handed} (h : PInv st handed) (l : List Tok) :
    PInv (st.alloc l).1 (handed ++ [(st.alloc l).2]) := by
  have hlen : (st.alloc l).1.heap.length = st.heap.length + 1 := by
    rw [PState.alloc_heap, List.length_append, List.length_singleton]
  rw [PState.alloc_ref]
  constructor
  · intro s r hl
    obtain ⟨h1, h2, h3⟩ := h.tok s r hl
    refine ⟨by omega, ?_, ?_⟩
    · rw [h2, PState.alloc_heap]; simp [List.getD_eq_getElem?_getD, List.getElem?_append_left h1]
    · simp only [List.mem_append, List.mem_singleton, not_or]
      exact ⟨h3, by omega⟩
  · exact h.parse
  · intro r hr
    rcases List.mem_append.1 hr with hr | hr
    · have := h.handed r hr; omega
    · rw [List.mem_singleton.1 hr]; omega

theorem forall_lookup_cons {α} {P : List Char → α → Prop} {k : List Char} {v : α} {rest : List (List Char × α)}
    (h0 : P k v) (h : ∀ k' v', lookup k' rest = some v' → P k' v') :
    ∀ k' v', lookup k' ((k, v) :: rest) = some v' → P k' v' := by
  intro k' v' hl
  rw [lookup] at hl
  split at hl
  · next heq => cases hl; exact heq ▸ h0
  · exact h k' v' hl

theorem tokenizeOp_spec {st handed} (h : PInv st handed) (s : List Char) :
    match st.tokenizeOp s with
    | (st', .list r) => PInv st' (handed ++ [r]) ∧ tokenize false s = .ok (st'.heap.getD r [])
    | (st', .badChar c) => st' = st ∧ tokenize false s = .error c := by
  unfold PState.tokenizeOp
  cases hl : lookup s st.tokCache with
  | some r0 => exact ⟨h.alloc _, by rw [(h.tok s r0 hl).2.1]; simp [List.getD_eq_getElem?_getD]⟩
  | none =>
    cases ht : tokenize false s with
    | error c => exact ⟨rfl, rfl⟩
    | ok ts =>
      -- the cached list object is not handed out, the copy is
      have h1 : PInv (st.alloc ts).1 handed := (h.alloc ts).dropLast
      have h2 : PInv { (st.alloc ts).1 with tokCache := (s, st.heap.length) :: st.tokCache } handed :=
        { tok := forall_lookup_cons
            ⟨by rw [PState.alloc_heap]; simp,
              by rw [ht, PState.alloc_heap]; simp [List.getD_eq_getElem?_getD],
              fun hm => Nat.lt_irrefl _ (h.handed _ hm)⟩ h1.tok
          parse := h1.parse
          handed := h1.handed }
      exact ⟨h2.alloc ts, by simp [List.getD_eq_getElem?_getD]⟩

theorem parseText_of_tokens {s : List Char} {ts : List Tok} (h : tokenize false s = .ok ts) :
    parseText s =
      match parseToks ts with
      | .ok e => .tree e
      | .error e => .perr e := by
  rw [parseText, h]; rfl

theorem parseOp_spec {st handed} (h : PInv st handed) (s : List Char) :
    PInv (st.parseOp s).1 handed ∧ (st.parseOp s).2 = parseText s := by
  unfold PState.parseOp
  cases hl : lookup s st.parseCache with
  | some e => exact ⟨h, (h.parse s e hl).symm⟩
  | none =>
    have hto := tokenizeOp_spec h s
    generalize st.tokenizeOp s = out at hto ⊢
    obtain ⟨st1, r | c⟩ := out
    · obtain ⟨hinv, ht⟩ := hto
      -- `_parse` empties the list it was handed; nobody else holds it
      have hinv2 : PInv { st1 with heap := st1.heap.set r [] } handed := (hinv.setHanded r [] (by simp)).dropLast
      have hpt := parseText_of_tokens ht
      dsimp only
      cases hp : parseToks (st1.heap.getD r []) with
      | ok e => rw [hp] at hpt; exact ⟨⟨hinv2.tok, forall_lookup_cons hpt hinv2.parse, hinv2.handed⟩, hpt.symm⟩
      | error e => rw [hp] at hpt; exact ⟨hinv2, hpt.symm⟩
    · obtain ⟨rfl, ht⟩ := hto
      exact ⟨h, by rw [parseText, ht]⟩

/-- what `tokenize(s)` answers on a parser object just made, nothing cached -/
def freshTokenize (s : List Char) : POut :=
  match tokenize false s with
  | .ok ts => .tokens ts
  | .error c => .badChar c

def freshAnswer : POp → POut
  | .parse s => .parsed (parseText s)
  | .tokenize s => freshTokenize s
  | _ => .unit

theorem runOps_length (ops : List POp) : ∀ (st : PState) (handed : List Nat),
    (runOps st handed ops).length = ops.length := by
  induction ops with
  | nil => intro st handed; simp [runOps]
  | cons op ops ih =>
    intro st handed
    cases op with
    | parse s => simp [runOps, ih]
    | tokenize s =>
      simp only [runOps]
      split <;> simp [ih]
    | clear => simp [runOps, ih]
    | consume i n =>
      simp only [runOps]
      split <;> simp [ih]

theorem runOps_fresh (ops : List POp) : ∀ (st : PState) (handed : List Nat), PInv st handed →
    runOps st handed ops = ops.map freshAnswer := by
  induction ops with
  | nil => intro st handed _; rfl
  | cons op ops ih =>
    intro st handed hinv
    cases op with
    | parse s =>
      obtain ⟨h1, h2⟩ := parseOp_spec hinv s
      simp only [runOps, List.map_cons, freshAnswer, ← h2, ih _ handed h1]
    | tokenize s =>
      have hto := tokenizeOp_spec hinv s
      simp only [runOps, List.map_cons, freshAnswer, freshTokenize]
      generalize st.tokenizeOp s = out at hto ⊢
      obtain ⟨st', r | c⟩ := out
      · simp only [hto.2, ih st' _ hto.1]
      · simp only [hto.2, ih st' _ (hto.1 ▸ hinv)]
    | clear => simp only [runOps, List.map_cons, freshAnswer, ih _ _ hinv.clear]
    | consume i n =>
      simp only [runOps, List.map_cons, freshAnswer]
      cases hh : handed[i]? with
      | none => simp only [ih _ _ hinv]
      | some r => simp only [ih _ _ (hinv.consume r n (List.mem_of_getElem? hh))]

end Mathy
