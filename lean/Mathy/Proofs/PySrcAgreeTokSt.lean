/-
The model's tokenizer IS the repository's tokenizer (translated source): same token list / same error
for EVERY input string and both settings of `exclude_padding` (`tokenize_agree`).

`Gen/PySrcTokSt.lean` is regenerated on every run from the live `mathy_core/tokenizer.py` by
`harness/py2lean_st.py`: the methods `eat_token`, `identify_constants`, `identify_alphas`,
`identify_operators` and `tokenize`, statement by statement, with the mutable `TokenContext`
passed as state and `raise` as `Except.error`.  The translated `while` loop never runs out of the fuel
`len(buffer) + 1` it is given: the real loop terminates.
-/
import Mathy.Gen.PySrcTokSt
import Mathy.Proofs.PySrcAgreeTok
import Mathy.Proofs.TokLemmas
namespace Mathy.SrcAgree
open Mathy.Py Mathy.Gen.Src

/-- a token of the model as the Python object: `TOKEN_TYPES.<name>` is `1 << bit` -/
def tokToPy (t : Tok) : Token := ⟨t.value, 1 <<< t.type.bit⟩

def tyBits (t : TT) : Nat := 1 <<< t.bit

theorem tokToPy_value (t : Tok) : (tokToPy t).value = t.value := rfl
theorem tokToPy_type (t : Tok) : (tokToPy t).type = tyBits t.type := rfl

theorem tyBits_beq (a b : TT) : (tyBits a == tyBits b) = (a == b) := by
  cases a <;> cases b <;> rfl

theorem tyBits_bne (a b : TT) : (tyBits a != tyBits b) = (a != b) := congrArg not (tyBits_beq a b)

/-- all fifteen `TOKEN_TYPES_*`; `simp only [tt_consts]` rewrites with every conjunct -/
theorem tt_consts :
    TOKEN_TYPES_Constant = tyBits .constant ∧ TOKEN_TYPES_Variable = tyBits .variable ∧
    TOKEN_TYPES_Plus = tyBits .plus ∧ TOKEN_TYPES_Minus = tyBits .minus ∧
    TOKEN_TYPES_Multiply = tyBits .multiply ∧ TOKEN_TYPES_Divide = tyBits .divide ∧
    TOKEN_TYPES_Exponent = tyBits .exponent ∧ TOKEN_TYPES_Factorial = tyBits .factorial ∧
    TOKEN_TYPES_OpenParen = tyBits .openParen ∧ TOKEN_TYPES_CloseParen = tyBits .closeParen ∧
    TOKEN_TYPES_Function = tyBits .function ∧ TOKEN_TYPES_Equal = tyBits .equal ∧
    TOKEN_TYPES_Pad = tyBits .pad ∧ TOKEN_TYPES_EOF = tyBits .eof ∧ TOKEN_TYPES_Invalid = tyBits .invalid := by
  refine ⟨rfl, rfl, rfl, rfl, rfl, rfl, rfl, rfl, rfl, rfl, rfl, rfl, rfl, rfl, rfl⟩

def invalidPrefix : List Char := "Invalid token \"".toList
def invalidInfix : List Char := "\" in expression: ".toList
/-- the text of the `ValueError` raised for a character that starts no token -/
def invalidTokenMsg (c : Char) (s : List Char) : List Char :=
  invalidPrefix ++ (c :: (invalidInfix ++ s))

theorem invalidTokenMsg_inj (c d : Char) (s : List Char) : invalidTokenMsg c s = invalidTokenMsg d s ↔ c = d :=
  ⟨fun h => (List.cons.inj (List.append_cancel_left h)).1, fun h => h ▸ rfl⟩

theorem eat_for_eq (ctx : TokenContext) (p : Char → Bool) (res xs : List Char) :
    Tokenizer_eat_token_for1 ctx p res xs = .ok (res ++ xs.takeWhile p, ctx) := by
  induction xs generalizing res with
  | nil => simp [Tokenizer_eat_token_for1]
  | cons x xs ih =>
    rw [Tokenizer_eat_token_for1]
    cases hp : p x
    · simp [List.takeWhile, hp]
    · simp [List.takeWhile, hp, ih]

theorem eat_token_eq (ctx : TokenContext) (p : Char → Bool) :
    Tokenizer_eat_token ctx p = .ok (ctx.chunk.takeWhile p, ctx) := by
  simp [Tokenizer_eat_token, eat_for_eq]

section strLen
variable {α : Type} (a : α) (l m : List α)

theorem strLen_nil : strLen ([] : List α) = 0 := rfl

theorem strLen_cons : strLen (a :: l) = strLen l + 1 := rfl

theorem strLen_append : strLen (l ++ m) = strLen l + strLen m := by
  simp only [strLen, List.length_append, Int.ofNat_eq_natCast, Int.natCast_add]

theorem strLen_nonneg : 0 ≤ strLen l := Int.natCast_nonneg _

end strLen

theorem strIdx_cons (c : Char) (cs : List Char) : strIdx (c :: cs) 0 = .ok c := by
  simp [strIdx]

theorem bind_ok {α β : Type} (a : α) (f : α → Except PyErr β) : Except.bind (.ok a) f = f a := rfl

theorem identify_constants_eq (ctx : TokenContext) (c : Char) (cs : List Char) (h : ctx.chunk = c :: cs) :
    Tokenizer_identify_constants ctx =
      if isNumber c then
        .ok (strLen (c :: cs.takeWhile isNumber),
          { ctx with tokens := ctx.tokens ++ [⟨c :: cs.takeWhile isNumber, TOKEN_TYPES_Constant⟩],
                     index := ctx.index + strLen (c :: cs.takeWhile isNumber) })
      else .ok (0, ctx) := by
  have hf : Tokenizer_is_number = isNumber := funext is_number_agree
  simp only [Tokenizer_identify_constants, h, strIdx_cons, bind_ok, eat_token_eq, hf]
  cases hn : isNumber c <;> simp [List.takeWhile, hn]

theorem alphas_for_eq (ctx : TokenContext) (v xs : List Char) :
    Tokenizer_identify_alphas_for1 ctx v xs =
      .ok (strLen v, { ctx with tokens := ctx.tokens ++ xs.map (fun c => ⟨[c], TOKEN_TYPES_Variable⟩),
                                index := ctx.index + strLen v }) := by
  induction xs generalizing ctx with
  | nil => simp [Tokenizer_identify_alphas_for1]
  | cons x xs ih => rw [Tokenizer_identify_alphas_for1]; simp [ih]

theorem functions_agree : Tokenizer_functions = functionNames := by decide

theorem alphaToks_toPy (run : List Char) :
    (alphaToks run).map tokToPy =
      if functionNames.contains run then [⟨run, TOKEN_TYPES_Function⟩]
      else run.map (fun c => ⟨[c], TOKEN_TYPES_Variable⟩) := by
  unfold alphaToks
  split
  · rfl
  · rw [List.map_map]; rfl

theorem identify_alphas_eq (ctx : TokenContext) (c : Char) (cs : List Char) (h : ctx.chunk = c :: cs) :
    Tokenizer_identify_alphas ctx =
      if isAlpha c then
        .ok (strLen (c :: cs.takeWhile isAlpha),
          { ctx with tokens := ctx.tokens ++ (alphaToks (c :: cs.takeWhile isAlpha)).map tokToPy,
                     index := ctx.index + strLen (c :: cs.takeWhile isAlpha) })
      else .ok (0, ctx) := by
  have hf : Tokenizer_is_alpha = isAlpha := funext is_alpha_agree
  simp only [Tokenizer_identify_alphas, h, strIdx_cons, bind_ok, eat_token_eq, hf, alphas_for_eq,
    functions_agree, alphaToks_toPy]
  cases ha : isAlpha c
  · simp
  · simp only [List.takeWhile, ha, Bool.not_true, Bool.false_eq_true, if_false, if_true]
    split <;> simp

/-- the translator prints a character as its code point; `simp only [chars_norm]` rewrites with every conjunct -/
theorem chars_norm :
    Char.ofNat 32 = ' ' ∧ Char.ofNat 9 = '\t' ∧ Char.ofNat 13 = '\r' ∧ Char.ofNat 10 = '\n' ∧ Char.ofNat 43 = '+' ∧
    Char.ofNat 45 = '-' ∧ Char.ofNat 8211 = '–' ∧ Char.ofNat 42 = '*' ∧ Char.ofNat 47 = '/' ∧ Char.ofNat 94 = '^' ∧
    Char.ofNat 33 = '!' ∧ Char.ofNat 40 = '(' ∧ Char.ofNat 91 = '[' ∧ Char.ofNat 41 = ')' ∧ Char.ofNat 93 = ']' ∧
    Char.ofNat 61 = '=' := by decide

theorem invalidTokenMsg_eq (c : Char) (s : List Char) :
    ([Char.ofNat 73, Char.ofNat 110, Char.ofNat 118, Char.ofNat 97, Char.ofNat 108, Char.ofNat 105, Char.ofNat 100,
      Char.ofNat 32, Char.ofNat 116, Char.ofNat 111, Char.ofNat 107, Char.ofNat 101, Char.ofNat 110, Char.ofNat 32,
      Char.ofNat 34] ++ [c] ++ [Char.ofNat 34, Char.ofNat 32, Char.ofNat 105, Char.ofNat 110, Char.ofNat 32,
      Char.ofNat 101, Char.ofNat 120, Char.ofNat 112, Char.ofNat 114, Char.ofNat 101, Char.ofNat 115, Char.ofNat 115,
      Char.ofNat 105, Char.ofNat 111, Char.ofNat 110, Char.ofNat 58, Char.ofNat 32] ++ s) = invalidTokenMsg c s := by
  rfl

/-- what `identify_operators` does with the model's answer for the character `c` -/
def opOutcome (ctx : TokenContext) (c : Char) : Option (List Tok) → Except PyErr (Bool × TokenContext)
  | some t => .ok (true, { ctx with tokens := ctx.tokens ++ t.map tokToPy, index := ctx.index + 1 })
  | none => .error (.ValueError (invalidTokenMsg c ctx.buffer))

theorem identify_operators_eq (excl : Bool) (ctx : TokenContext) (c : Char) (cs : List Char)
    (h : ctx.chunk = c :: cs) :
    Tokenizer_identify_operators excl ctx = opOutcome ctx c (operatorTok (!excl) c) := by
  -- the Python method makes the tests of `operatorTok` in the same order: the first (whitespace) differs
  -- in shape and is peeled off by `ite_congr`, the chain of the other nine is one `rfl`
  obtain ⟨tokens, index, buffer, chunk⟩ := ctx
  cases h
  simp only [Tokenizer_identify_operators, strIdx_cons, bind_ok, invalidTokenMsg_eq, operatorTok, chars_norm,
    apply_ite (opOutcome _ c)]
  refine ite_congr rfl (fun _ => ?_) fun _ => rfl
  -- whitespace: Python asks `exclude_padding` where the model has a conditional list
  cases excl
  · rfl
  · simp [opOutcome]

theorem intTruthy_strLen_cons (c : Char) (l : List Char) : intTruthy (strLen (c :: l)) = true := by
  have := strLen_nonneg l
  rw [strLen_cons, intTruthy, bne_iff_ne]; omega

theorem intTruthy_zero : intTruthy 0 = false := rfl

theorem while_nil (excl : Bool) (b : List Char) (ctx : TokenContext) (fuel : Nat) (h : ctx.chunk = []) :
    Tokenizer_tokenize_while1 excl b ctx (fuel + 1) = .ok (ctx.tokens ++ [⟨[], TOKEN_TYPES_EOF⟩]) := by
  rw [Tokenizer_tokenize_while1]
  simp [h, strTruthy, bind_ok]

theorem while_cons (excl : Bool) (b : List Char) (ctx : TokenContext) (fuel : Nat) (c : Char) (cs : List Char)
    (h : ctx.chunk = c :: cs) :
    Tokenizer_tokenize_while1 excl b ctx (fuel + 1) =
      match lexToks (!excl) c (cs.takeWhile (lexClass c)) with
      | none => .error (.ValueError (invalidTokenMsg c ctx.buffer))
      | some t =>
        Tokenizer_tokenize_while1 excl b
          { tokens := ctx.tokens ++ t.map tokToPy,
            index := ctx.index + strLen (c :: cs.takeWhile (lexClass c)), buffer := ctx.buffer,
            chunk := strFrom ctx.buffer (ctx.index + strLen (c :: cs.takeWhile (lexClass c))) } fuel := by
  rw [Tokenizer_tokenize_while1]
  simp only [h, strTruthy, List.isEmpty_cons, Bool.not_false, bind_ok, if_true,
    identify_constants_eq ctx c cs h]
  rcases lex_cases c with hn | ha | ⟨hn, ha⟩
  · simp only [hn, lexClass_number hn, lexToks_number hn, if_true, bind_ok, intTruthy_strLen_cons]
    rfl
  · simp only [isNumber_of_isAlpha ha, ha, lexClass_alpha ha, lexToks_alpha ha, Bool.false_eq_true,
      if_false, if_true, bind_ok, intTruthy_zero, identify_alphas_eq ctx c cs h, intTruthy_strLen_cons]
  · simp only [hn, ha, lexClass_other hn ha, lexToks_other hn ha, Bool.false_eq_true, if_false,
      bind_ok, intTruthy_zero, identify_alphas_eq ctx c cs h, identify_operators_eq excl ctx c cs h,
      takeWhile_false]
    cases operatorTok (!excl) c <;> rfl

theorem strFrom_append (pre rest l : List Char) :
    strFrom (pre ++ rest) (strLen pre + strLen l) = rest.drop l.length := by
  have h : ¬ (strLen pre + strLen l < 0) := by
    have := strLen_nonneg pre; have := strLen_nonneg l; omega
  have h2 : (strLen pre + strLen l).toNat = pre.length + l.length := by
    simp only [strLen, Int.ofNat_eq_natCast]; omega
  simp only [strFrom, if_neg h, h2]
  rw [List.drop_append]
  simp

theorem drop_run (p : Char → Bool) (c : Char) (cs : List Char) :
    (c :: cs).drop (c :: cs.takeWhile p).length = cs.dropWhile p := by
  have := List.takeWhile_append_dropWhile (p := p) (l := cs)
  simp only [List.length_cons, List.drop_succ_cons]
  conv => lhs; rhs; rw [← this]
  exact List.drop_left

def tokOutcome (buffer : List Char) (acc : List Token) : Except Char (List Tok) → Except PyErr (List Token)
  | .ok ts => .ok (acc ++ ts.map tokToPy ++ [⟨[], TOKEN_TYPES_EOF⟩])
  | .error c => .error (.ValueError (invalidTokenMsg c buffer))

theorem tokOutcome_step (buffer : List Char) (acc : List Token) (c : Char) (t : List Tok)
    (r : Except Char (List Tok)) :
    tokOutcome buffer acc (lexStep c (some t) r) = tokOutcome buffer (acc ++ t.map tokToPy) r := by
  cases r <;> simp [tokOutcome, lexStep, Except.map]

/-- loop invariant: `buffer = pre ++ rest`, `index = len(pre)`, `chunk = rest`; with enough fuel the
translated loop yields what the model's tokenizer yields on `rest`, appended to the tokens so far -/
theorem while_eq (excl : Bool) (b : List Char) : ∀ (rest pre : List Char) (acc : List Token) (fuel : Nat),
    rest.length < fuel →
    Tokenizer_tokenize_while1 excl b ⟨acc, strLen pre, pre ++ rest, rest⟩ fuel =
      tokOutcome (pre ++ rest) acc (tokBody (!excl) rest) := by
  intro rest
  induction rest using lex_induction with
  | nil =>
    intro pre acc fuel hf
    obtain ⟨f, rfl⟩ : ∃ f, fuel = f + 1 := ⟨fuel - 1, by omega⟩
    rw [while_nil _ _ _ _ rfl]
    simp [tokOutcome, tokBody_nil]
  | cons c cs ih =>
    intro pre acc fuel hf
    obtain ⟨f, rfl⟩ : ∃ f, fuel = f + 1 := ⟨fuel - 1, by omega⟩
    rw [while_cons excl b _ f c cs rfl, tokBody_cons]
    cases lexToks (!excl) c _ with
    | none => rfl
    | some t =>
      -- the context after the step is the invariant's, with the lexeme moved from `rest` to `pre`
      have hl := length_dropWhile_le (lexClass c) cs
      have key := ih (pre ++ c :: cs.takeWhile (lexClass c)) (acc ++ t.map tokToPy) f
        (by simp only [List.length_cons] at hf; omega)
      have hb : (pre ++ c :: cs.takeWhile (lexClass c)) ++ cs.dropWhile (lexClass c) = pre ++ c :: cs := by
        simp [List.takeWhile_append_dropWhile]
      have hchunk : strFrom (pre ++ c :: cs) (strLen pre + strLen (c :: cs.takeWhile (lexClass c)))
          = cs.dropWhile (lexClass c) := by
        rw [strFrom_append, drop_run]
      rw [hb, strLen_append] at key
      simp only [hchunk, key, tokOutcome_step]

/-- **the translated `Tokenizer.tokenize` is the model's `tokenize`**: same tokens (values and
`TOKEN_TYPES` bits, end marker included), same `ValueError` text. -/
theorem tokenize_agree (excl : Bool) (s : List Char) :
    Tokenizer_tokenize excl s =
      match tokenize (!excl) s with
      | .ok ts => .ok (ts.map tokToPy)
      | .error c => .error (.ValueError (invalidTokenMsg c s)) := by
  rw [tokenize_eq]
  refine (while_eq excl s s [] [] (s.length + 1) (Nat.lt_succ_self _)).trans ?_
  cases tokBody (!excl) s with
  | error c => rfl
  | ok ts => exact congrArg Except.ok (by rw [List.map_append]; rfl)

end Mathy.SrcAgree
