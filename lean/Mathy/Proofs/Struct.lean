/-
Structural facts about rewrites (property C07): object identities (tags) are never duplicated,
the context is left alone, and the set of variables is unchanged.
-/
import Mathy.Proofs.Terms
import Mathy.Proofs.Arr
namespace Mathy

def Frame.tags : Frame → List Nat
  | .binL t _ r => t :: r.tags
  | .binR t _ l => t :: l.tags
  | .un t _ => [t]

theorem count_fill (x : Nat) (f : Frame) (e : Ex) :
    (f.fill e).tags.count x = e.tags.count x + f.tags.count x := by
  cases f with
  | binL t o r => simp only [Frame.fill, Frame.tags, Ex.tags, List.count_append]
  | binR t o l =>
    simp only [Frame.fill, Frame.tags, Ex.tags, List.count_append, List.count_cons]
    omega
  | un t o => simp only [Frame.fill, Frame.tags, Ex.tags, List.count_cons, List.count_nil, Nat.zero_add]

def Frame.vars : Frame → List Char
  | .binL _ _ r => r.vars
  | .binR _ _ l => l.vars
  | .un _ _ => []

def ctxVars : Ctx → List Char
  | [] => []
  | f :: fs => f.vars ++ ctxVars fs

theorem mem_vars_fill (c : Char) (f : Frame) (e : Ex) :
    c ∈ (f.fill e).vars ↔ c ∈ e.vars ∨ c ∈ f.vars := by
  cases f with
  | binL t o r => simp only [Frame.fill, Frame.vars, Ex.vars, List.mem_append]
  | binR t o l => simp only [Frame.fill, Frame.vars, Ex.vars, List.mem_append, or_comm]
  | un t o => simp only [Frame.fill, Frame.vars, Ex.vars, List.not_mem_nil, or_false]

theorem mem_vars_plug (c : Char) (k : Ctx) (e : Ex) :
    c ∈ (plug k e).vars ↔ c ∈ e.vars ∨ c ∈ ctxVars k := by
  induction k generalizing e with
  | nil => simp only [plug, ctxVars, List.not_mem_nil, or_false]
  | cons f fs ih => rw [plug, ih, mem_vars_fill, ctxVars, List.mem_append, or_assoc]

/-- `n'` may stand where `n` stood: no object of the input occurs more often than before (tag 0 is an
object the step created; a rule may drop objects, hence `≤`), and the variables are the same. -/
structure LocalOk (n n' : Ex) : Prop where
  tags : ∀ x, x ≠ 0 → n'.tags.count x ≤ n.tags.count x
  vars : ∀ c, c ∈ n'.vars ↔ c ∈ n.vars

theorem LocalOk.trans {a b c : Ex} (h1 : LocalOk a b) (h2 : LocalOk b c) : LocalOk a c :=
  ⟨fun x hx => (h2.tags x hx).trans (h1.tags x hx), fun ch => (h2.vars ch).trans (h1.vars ch)⟩

theorem LocalOk.fill {a b : Ex} (h : LocalOk a b) (f : Frame) : LocalOk (f.fill a) (f.fill b) where
  tags x hx := by
    rw [count_fill, count_fill]
    exact Nat.add_le_add_right (h.tags x hx) _
  vars c := by rw [mem_vars_fill, mem_vars_fill, h.vars c]

theorem LocalOk.plug {a b : Ex} (h : LocalOk a b) (k : Ctx) : LocalOk (plug k a) (plug k b) :=
  plug_congr (fun f _ _ h => h.fill f) h k

/-- closes `count x _ ≤ count x _` goals on explicit trees; the argument is `x ≠ 0` (the proofs use `local_ok`) -/
macro "tags_close" h:ident : tactic =>
  `(tactic| (
    have hx0 := Ne.symm $h
    simp [Frame.fill, Ex.tags, Ex.clone, vmWrapSimple, vmWrapChained, vmWrapCLR, List.count_append, List.count_cons, count_clone, $h:ident, hx0] <;>
      (try split_ifs) <;> omega))

/-- Both fields of `LocalOk` between explicit trees.  The count of an old identity adds up over the
kept children and the nodes (`omega` takes the `if t = x then 1 else 0` of an old node as an atom; a
new node has tag 0 and contributes nothing); membership in `vars` is a disjunction over the same
children, compared up to order and bracketing. -/
macro "local_ok" : tactic =>
  `(tactic|
    (refine ⟨fun x hx => ?_, fun c => ?_⟩
     · simp only [Ex.tags, List.count_append, List.count_cons, List.count_nil, count_clone hx,
         beq_iff_eq, hx.symm, if_false, Nat.add_zero, Nat.zero_add] <;> omega
     · simp only [Ex.vars, List.mem_append, vars_clone, List.not_mem_nil, List.mem_singleton,
         or_false, false_or, List.append_nil, List.nil_append, or_assoc, or_comm, or_left_comm]))

theorem ASArr.localOk {k k' : Ctx} {n n' : Ex} (h : ASArr k n k' n') :
    ∃ f, k = f :: k' ∧ LocalOk (f.fill n) n' := by
  cases h <;> exact ⟨_, rfl, by simp only [Frame.fill]; local_ok⟩

theorem CSArr.localOk {n n' : Ex} (h : CSArr n n') : LocalOk n n' := by
  cases h <;> local_ok

theorem CAArr.localOk {n n' : Ex} (h : CAArr n n') : LocalOk n n' := by
  cases h <;> local_ok

theorem dmBuild_tags (a b c : Ex) {x : Nat} (hx : x ≠ 0) : (dmBuild a b c).tags.count x = 0 := by
  simp only [dmBuild]
  split_ifs <;> simp [Ex.tags, List.count_append, count_clone hx, hx.symm]

theorem dmBuild_vars (a b c : Ex) (ch : Char) :
    ch ∈ (dmBuild a b c).vars ↔ ch ∈ a.vars ∨ ch ∈ b.vars ∨ ch ∈ c.vars := by
  have swap (p : Bool) (x y : Ex) :
      ch ∈ (if p then Ex.bin 0 .mul x y else .bin 0 .mul y x).vars ↔ ch ∈ x.vars ∨ ch ∈ y.vars := by
    cases p <;> simp [Ex.vars, or_comm]
  simp only [dmBuild, Ex.vars, List.mem_append, swap, vars_clone]
  tauto

theorem DMArr.localOk {n n' : Ex} (h : DMArr n n') : LocalOk n n' := by
  cases h <;> exact
    ⟨fun x hx => by rw [dmBuild_tags _ _ _ hx]; exact Nat.zero_le _,
     fun ch => by simp only [dmBuild_vars, Ex.vars, List.mem_append, or_comm]⟩

theorem MIArr.localOk {n n' : Ex} (h : MIArr n n') : LocalOk n n' := by
  cases h <;> local_ok

theorem RSArr.localOk {n n' : Ex} (h : RSArr n n') : LocalOk n n' := by
  cases h <;> local_ok

theorem DFArr.localOk {n ln rn : Ex} {kw : Ctx} (h : DFArr n ln rn kw) :
    LocalOk n (plug kw (.bin 0 .add ln rn)) := by
  cases h <;> simp only [plug, Frame.fill] <;> local_ok

theorem dfCore_struct {lt rt : TermEx} {core : Ex} (h : dfCore lt rt = some core) :
    (∀ x, x ≠ 0 → core.tags.count x = 0) ∧
    (∀ ch, ch ∈ core.vars ↔ (lt.var = some ch ∨ rt.var = some ch)) := by
  obtain ⟨f, a, b, c, d⟩ := dfCore_inv h
  rw [d.result]
  refine ⟨fun x hx => ?_, fun ch => ?_⟩
  · simp [Ex.tags, List.count_append, makeTerm_tags d.common hx, makeTerm_tags d.left hx,
      makeTerm_tags d.right hx, hx.symm]
  · simp only [Ex.vars, List.mem_append, makeTerm_vars d.common, makeTerm_vars d.left, makeTerm_vars d.right]
    cases factorAddTermsEx_spec d.factor with
    | shared _ _ hv => simp [hv]
    | split => simp

theorem dfApply_localOk {k k' : Ctx} {n n' : Ex} (h : dfApply k n = .ok (k', n')) :
    k' = k ∧ LocalOk n n' := by
  obtain ⟨rfl, ln, rn, lt, rt, kw, core, d⟩ := dfApply_inv h
  obtain ⟨ht, hv⟩ := dfCore_struct d.factored
  rw [d.result]
  -- `n` is its two terms added inside `kw` (`d.arr.localOk`); there the sum is replaced by `core`
  refine ⟨rfl, d.arr.localOk.trans (LocalOk.plug ⟨fun x hx => ?_, fun c => ?_⟩ kw)⟩
  · rw [ht x hx]
    exact Nat.zero_le _
  · simp only [hv c, Ex.vars, List.mem_append, getTermEx_vars d.left c, getTermEx_vars d.right c]

theorem VMArr.localOk {n ln rn p : Ex} {wrap : List Rat → Ex → Ex} (h : VMArr n ln rn wrap)
    (lt rt : TermEx) (ht : ∀ x, x ≠ 0 → p.tags.count x = 0)
    (hv : ∀ c, c ∈ p.vars ↔ c ∈ ln.vars ∨ c ∈ rn.vars) : LocalOk n (wrap (vmCoefs lt rt) p) := by
  refine ⟨fun x hx => ?_, fun c => ?_⟩
  · obtain hc | ⟨a, hc⟩ | ⟨a, b, hc⟩ := vmCoefs_cases lt rt <;> rw [hc] <;> cases h <;>
      simp only [vmWrapSimple, vmWrapChained, vmWrapCLR, Ex.tags, List.count_append, List.count_cons,
        List.count_nil, beq_iff_eq, hx.symm, if_false, ht x hx, Nat.add_zero, Nat.zero_add] <;> omega
  · obtain hc | ⟨a, hc⟩ | ⟨a, b, hc⟩ := vmCoefs_cases lt rt <;> rw [hc] <;> cases h <;>
      simp only [vmWrapSimple, vmWrapChained, vmWrapCLR, Ex.vars, List.mem_append, hv,
        List.append_nil, List.nil_append, or_assoc, or_comm, or_left_comm]

theorem vmApply_localOk {k k' : Ctx} {n n' : Ex} (h : vmApply k n = .ok (k', n')) :
    k' = k ∧ LocalOk n n' := by
  obtain ⟨rfl, ln, rn, lt, rt, wrap, x, d⟩ := vmApply_inv h
  rw [d.result]
  refine ⟨rfl, d.arr.localOk _ _ (fun z hz => ?_) fun c => ?_⟩
  · simp [vmPower, Ex.tags, hz.symm]
  · simp [vmPower, Ex.vars, getTermEx_vars d.left c, getTermEx_vars d.right c, d.rightVar, d.leftVar, eq_comm]

theorem removeAddend_vars {inner inner' : Ctx} {sib : Ex}
    (h : removeAddend inner = some (inner', sib)) (e : Ex) (c : Char) :
    c ∈ (plug inner e).vars ↔ c ∈ e.vars ∨ c ∈ (plug inner' sib).vars := by
  obtain ⟨t, o, rfl | rfl⟩ := removeAddend_inv h <;>
    simp only [plug, Frame.fill, mem_vars_plug, Ex.vars, List.mem_append] <;> tauto

theorem bmApply_struct {k k' : Ctx} {n n' : Ex} (h : bmApply k n = .ok (k', n')) :
    k' = [] ∧ (∀ x, x ≠ 0 → n'.tags.count x = 0) ∧
    (∀ c, c ∈ n'.vars ↔ c ∈ (plug k n).vars) := by
  obtain ⟨rfl, ty, inner, rootF, d⟩ := bmApply_inv h
  rw [plug_splitRoot d.split]
  refine ⟨rfl, fun x hx => ?_, fun c => ?_⟩
  · cases d.arr <;>
      simp only [Ex.tags, List.count_append, List.count_cons, count_clone hx, beq_iff_eq, hx.symm,
        if_false]
  · cases d.arr with
    | divL | divR =>
      simp only [Frame.fill, Ex.vars, List.mem_append, vars_clone, mem_vars_plug]; tauto
    | subL hrem | subR hrem =>
      simp only [Frame.fill, Ex.vars, List.mem_append, vars_clone, removeAddend_vars hrem n c,
        or_assoc, or_comm, or_left_comm]

/-- Every rule consumes a prefix `kd` of the context (nothing; the parent frame for the associative
swap; everything for the balanced move) and replaces the subtree which that prefix spans. -/
theorem applyRule_localOk {r : Rule} {k k' : Ctx} {n n' : Ex} (h : applyRule r k n = .ok (k', n')) :
    ∃ kd, k = kd ++ k' ∧ LocalOk (plug kd n) n' := by
  cases r with
  | associative => obtain ⟨f, rfl, hl⟩ := (asApply_inv h).localOk; exact ⟨[f], rfl, hl⟩
  | commutative p => obtain ⟨rfl, arr⟩ := csApply_inv h; exact ⟨[], rfl, arr.localOk⟩
  | constants => obtain ⟨rfl, arr⟩ := caApply_inv h; exact ⟨[], rfl, arr.localOk⟩
  | factorOut c => obtain ⟨rfl, hl⟩ := dfApply_localOk h; exact ⟨[], rfl, hl⟩
  | distribute => obtain ⟨rfl, arr⟩ := dmApply_inv h; exact ⟨[], rfl, arr.localOk⟩
  | inverse => obtain ⟨rfl, arr⟩ := miApply_inv h; exact ⟨[], rfl, arr.localOk⟩
  | restate => obtain ⟨rfl, arr⟩ := rsApply_inv h; exact ⟨[], rfl, arr.localOk⟩
  | variableMultiply => obtain ⟨rfl, hl⟩ := vmApply_localOk h; exact ⟨[], rfl, hl⟩
  | balancedMove =>
    obtain ⟨rfl, ht, hv⟩ := bmApply_struct h
    exact ⟨k, (List.append_nil k).symm, fun x hx => by rw [ht x hx]; exact Nat.zero_le _, hv⟩

end Mathy
