/-
`evalPow` in terms of Mathlib's `zpow`, the value a `TermEx` triple stands for, and soundness of
`get_term_ex` and `make_term` against it; what `factor_add_terms_ex` returns.
-/
import Mathy.Proofs.Eval
import Mathy.Proofs.FactorLemmas
import Mathy.Proofs.UtilLemmas
namespace Mathy

theorem evalPow_int (x : Rat) (n : Int) :
    evalPow x n = if 0 ≤ n then .ok (x ^ n) else if x = 0 then .error .undef else .ok (x ^ n) := by
  unfold evalPow
  simp only [Rat.den_intCast, Rat.num_intCast, if_true]
  by_cases hn : 0 ≤ n
  · simp only [hn, if_true]
    congr 1
    rw [← zpow_natCast, Int.toNat_of_nonneg hn]
  · simp only [hn, if_false]
    by_cases hx : x = 0
    · simp [hx]
    · simp only [hx, if_false]
      congr 1
      have : (0:Int) ≤ -n := by omega
      rw [← zpow_natCast, Int.toNat_of_nonneg this, zpow_neg, inv_inv]

theorem evalPow_nonint (x y : Rat) (h : y.den ≠ 1) : evalPow x y = .error .undef := by
  unfold evalPow; simp [h]

theorem evalPow_one (x : Rat) : evalPow x 1 = .ok x := by
  simpa using evalPow_int x 1

theorem evalPow_cases (x y : Rat) : evalPow x y = .error .undef ∨ ∃ p, evalPow x y = .ok p := by
  unfold evalPow
  split_ifs <;> simp

theorem evalPow_int_ok {x : Rat} {n : Int} (h : x = 0 → 0 ≤ n) : evalPow x n = .ok (x ^ n) := by
  rw [evalPow_int]
  split_ifs with hn hx
  · rfl
  · exact absurd (h hx) hn
  · rfl

theorem evalPow_ok {x y p : Rat} (h : evalPow x y = .ok p) :
    ∃ n : Int, y = n ∧ (x = 0 → 0 ≤ n) ∧ p = x ^ n := by
  by_cases hd : y.den = 1
  · obtain ⟨n, rfl⟩ : ∃ n : Int, y = n := ⟨y.num, ((Rat.den_eq_one_iff y).mp hd).symm⟩
    rw [evalPow_int] at h
    refine ⟨n, rfl, ?_⟩
    split_ifs at h with hn hx
    · exact ⟨fun _ => hn, (Except.ok.inj h).symm⟩
    · exact ⟨fun h0 => absurd h0 hx, (Except.ok.inj h).symm⟩
  · rw [evalPow_nonint x y hd] at h
    cases h

theorem r_pow_add (x a b : Rat) :
    RRef (Res.bin .mul (evalPow x a) (evalPow x b)) (evalPow x (a + b)) := by
  -- `evalPow` fails with `undef` only, and then so does the product
  rcases evalPow_cases x a with ha | ⟨p, ha⟩
  · exact rref_iff.mpr (.inl (by rcases evalPow_cases x b with hb | ⟨q, hb⟩ <;> rw [ha, hb] <;> rfl))
  rcases evalPow_cases x b with hb | ⟨q, hb⟩
  · exact rref_iff.mpr (.inl (by rw [ha, hb]; rfl))
  -- both powers are defined: the exponents are integers, non-negative if `x = 0`
  obtain ⟨m, rfl, hm, rfl⟩ := evalPow_ok ha
  obtain ⟨n, rfl, hn, rfl⟩ := evalPow_ok hb
  refine rref_iff.mpr (.inr ?_)
  rw [ha, hb, ← Int.cast_add, evalPow_int_ok fun h0 => Int.add_nonneg (hm h0) (hn h0)]
  refine congrArg Except.ok (zpow_add' ?_)
  by_cases hx : x = 0
  · have := hm hx
    have := hn hx
    right
    omega
  · exact .inl hx

/-- the value a `TermEx` stands for: `coef * var ^ exp` (missing parts are 1) -/
def TermEx.res (env : Env) (t : TermEx) : Res :=
  match t.var with
  | none => .ok (t.coef.getD 1)
  | some x => Res.bin .mul (.ok (t.coef.getD 1)) (evalPow (env x) (t.exp.getD 1))

theorem TermEx.res_of_var {t : TermEx} {x : Char} (env : Env) (h : t.var = some x) :
    t.res env = Res.bin .mul (.ok (t.coef.getD 1)) (evalPow (env x) (t.exp.getD 1)) := by
  simp only [TermEx.res, h]

theorem getTermEx_sound {p : Bool} {n : Ex} {t : TermEx} (env : Env)
    (h : getTermEx p n = some t) : eval env n = t.res env := by
  cases getTermEx_inv h <;> simp [eval, TermEx.res, evalPow_one, res_neg_eq, evalBop]

theorem makeTerm_sound {c : Rat} {v : Option Char} {e : Option Rat} {m : Ex} (env : Env)
    (h : makeTerm c v e = some m) : eval env m = (TermEx.mk (some c) v e).res env := by
  cases makeTerm_inv h <;> simp [eval, TermEx.res, evalPow_one, evalBop]

/-! `factor_add_terms_ex` gives each side `x if x and x != common else None`, for variable and exponent;
`common` is `None` in the first lemma and `x` itself in the second. -/

theorem ite_isSome_bne_none {α : Type} [DecidableEq α] (a : Option α) :
    (if (a.isSome && a != none) = true then a else none) = a := by
  cases a <;> rfl

theorem ite_isSome_bne_self {α : Type} [DecidableEq α] (a : Option α) :
    (if (a.isSome && a != a) = true then a else none) = none := by
  simp

/-- `bothMatch` there: no exponent at all, or two equal ones -/
theorem eq_of_bothMatch {a b : Option Rat}
    (h : (!((a.isSome || b.isSome) && !(a.isSome && b.isSome && a == b))) = true) : a = b := by
  cases a <;> cases b <;> simp_all

/-- What `factor_add_terms_ex` returns: a common numeric factor `g` of the two coefficients, and either
the whole variable part (variable and exponent, the same in both terms) is common or nothing of it is. -/
inductive FactorOf (lt rt : TermEx) : FactorResult → Prop
  | shared {g l r : Rat} : g * l = lt.coef.getD 1 → g * r = rt.coef.getD 1 → rt.var = lt.var → rt.exp = lt.exp →
      FactorOf lt rt { best := g, left := l, right := r, comVar := lt.var, comExp := lt.exp,
                       leftVar := none, leftExp := none, rightVar := none, rightExp := none }
  | split {g l r : Rat} : g * l = lt.coef.getD 1 → g * r = rt.coef.getD 1 →
      FactorOf lt rt { best := g, left := l, right := r, comVar := none, comExp := none,
                       leftVar := lt.var, leftExp := lt.exp, rightVar := rt.var, rightExp := rt.exp }

theorem factorAddTermsEx_spec {lt rt : TermEx} {f : FactorResult}
    (h : factorAddTermsEx lt rt = some f) : FactorOf lt rt f := by
  unfold factorAddTermsEx at h
  simp only at h
  split at h
  case h_1 => cases h
  split at h
  case h_2 => cases h
  next hgl hgr =>
    cases h
    have hl := dictGet_ok (factor_ok _) hgl
    have hr := dictGet_ok (factor_ok _) hgr
    -- every field is an `if shared then … else …`; `shared` says that both terms have the same variable
    -- and (`bothMatch`) the same exponent or none
    split
    next hsh =>
      simp only [Bool.and_eq_true, beq_iff_eq] at hsh
      obtain ⟨⟨-, hv⟩, hb⟩ := hsh
      have he := eq_of_bothMatch hb
      simp only [← hv, ← he, ite_isSome_bne_self]
      exact .shared hl hr hv.symm he.symm
    next =>
      simp only [ite_isSome_bne_none]
      exact .split hl hr

end Mathy
