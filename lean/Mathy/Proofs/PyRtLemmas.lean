/-
What the run-time library of the translator (`Model/PyRt.lean`) computes at a located node
`some ⟨k, e⟩`: class tests are the model's shape tests, `.left` / `.right` / `.parent` move the
zipper, `get_term_ex` is `getTermEx` with the parent flag read off the context.  Covered is what the nine
classifiers use: `holds_*` for 10 of the 16 classes, the flag `o == .pow` under `+` and `*` only.
-/
import Mathy.Proofs.PyRtAttr
import Mathy.Model.PyRt
import Mathy.Proofs.ExLemmas
namespace Mathy.SrcAgree
open Mathy.Py

attribute [pyrt] Option.isNone_none Option.isNone_some Option.isSome_none Option.isSome_some Option.bind_some
  Option.bind_none Option.map_some Option.map_none Bool.and_self Bool.and_true Bool.true_and Bool.and_false
  Bool.false_and Bool.or_false Bool.false_or Bool.or_true Bool.true_or Bool.not_true Bool.not_false
  Bool.false_eq_true if_true if_false ite_self Option.any_some Option.any_none

attribute [exshape] Ex.isBin Ex.isUn Ex.isVar Ex.isConst Ex.isOp Ex.left? Ex.right? Bool.and_eq_true beq_iff_eq
  and_false false_and and_true true_and

attribute [pyrt] isOp_fill

@[pyrt] theorem isOp_bin_self (t : Nat) (o : Bop) (l r : Ex) : (Ex.bin t o l r).isOp o = true := by
  rw [Ex.isOp_bin, beq_self_eq_true]

theorem isinstance_some (k : Ctx) (e : Ex) (cs : List Cls) :
    isinstance (some ⟨k, e⟩) cs = cs.any (·.holds e) := rfl

@[pyrt] theorem isinstance_none (cs : List Cls) : isinstance none cs = false := rfl

@[pyrt] theorem isinstance_one (k : Ctx) (e : Ex) (c : Cls) : isinstance (some ⟨k, e⟩) [c] = c.holds e := by
  simp [isinstance]

@[pyrt] theorem holds_add (e : Ex) : Cls.holds .AddExpression e = e.isOp .add := by
  cases e with
  | bin _ o _ _ => cases o <;> rfl
  | _ => rfl
@[pyrt] theorem holds_sub (e : Ex) : Cls.holds .SubtractExpression e = e.isOp .sub := by
  cases e with
  | bin _ o _ _ => cases o <;> rfl
  | _ => rfl
@[pyrt] theorem holds_mul (e : Ex) : Cls.holds .MultiplyExpression e = e.isOp .mul := by
  cases e with
  | bin _ o _ _ => cases o <;> rfl
  | _ => rfl
@[pyrt] theorem holds_div (e : Ex) : Cls.holds .DivideExpression e = e.isOp .div := by
  cases e with
  | bin _ o _ _ => cases o <;> rfl
  | _ => rfl
@[pyrt] theorem holds_pow (e : Ex) : Cls.holds .PowerExpression e = e.isOp .pow := by
  cases e with
  | bin _ o _ _ => cases o <;> rfl
  | _ => rfl
@[pyrt] theorem holds_eq (e : Ex) : Cls.holds .EqualExpression e = e.isOp .eq := by
  cases e with
  | bin _ o _ _ => cases o <;> rfl
  | _ => rfl
@[pyrt] theorem holds_const (e : Ex) : Cls.holds .ConstantExpression e = e.isConst := by
  cases e <;> rfl
@[pyrt] theorem holds_var (e : Ex) : Cls.holds .VariableExpression e = e.isVar := by
  cases e <;> rfl
@[pyrt] theorem holds_bin (e : Ex) : Cls.holds .BinaryExpression e = e.isBin := by
  cases e <;> rfl
@[pyrt] theorem holds_neg (e : Ex) : Cls.holds .NegateExpression e = e.isUn .neg := by
  cases e with
  | un _ o _ => cases o <;> rfl
  | _ => rfl

/-! For a node that is not known yet, a test on `ref.left.right…` is a test on `n.left?.bind Ex.right? …`. -/

def focus? (r : Ref) : Option Ex := r.map (·.focus)

theorem focus_some (k : Ctx) (n : Ex) : focus? (some ⟨k, n⟩) = some n := rfl
theorem focus_left (r : Ref) : focus? (Ref.left r) = (focus? r).bind Ex.left? := by
  rcases r with _ | ⟨k, _ | _ | _ | _⟩ <;> rfl
theorem focus_right (r : Ref) : focus? (Ref.right r) = (focus? r).bind Ex.right? := by
  rcases r with _ | ⟨k, _ | _ | _ | _⟩ <;> rfl
theorem isinstance_focus (r : Ref) (c : Cls) : isinstance r [c] = (focus? r).any c.holds := by
  rcases r with _ | ⟨k, e⟩ <;> simp [isinstance, focus?]
theorem isSome_focus (r : Ref) : r.isSome = (focus? r).isSome := by
  cases r <;> rfl
@[pyrt] theorem left?_bin (t : Nat) (o : Bop) (l r : Ex) : (Ex.bin t o l r).left? = some l := rfl
@[pyrt] theorem right?_bin (t : Nat) (o : Bop) (l r : Ex) : (Ex.bin t o l r).right? = some r := rfl

@[pyrt] theorem left_bin (k : Ctx) (t : Nat) (o : Bop) (l r : Ex) :
    Ref.left (some ⟨k, .bin t o l r⟩) = some ⟨.binL t o r :: k, l⟩ := rfl
@[pyrt] theorem right_bin (k : Ctx) (t : Nat) (o : Bop) (l r : Ex) :
    Ref.right (some ⟨k, .bin t o l r⟩) = some ⟨.binR t o l :: k, r⟩ := rfl
theorem left_const (k : Ctx) (t : Nat) (v : Rat) : Ref.left (some ⟨k, .const t v⟩) = none := rfl
theorem left_var (k : Ctx) (t : Nat) (x : Char) : Ref.left (some ⟨k, .var t x⟩) = none := rfl
theorem left_un (k : Ctx) (t : Nat) (o : Uop) (c : Ex) : Ref.left (some ⟨k, .un t o c⟩) = none := rfl
theorem right_const (k : Ctx) (t : Nat) (v : Rat) : Ref.right (some ⟨k, .const t v⟩) = none := rfl
theorem right_var (k : Ctx) (t : Nat) (x : Char) : Ref.right (some ⟨k, .var t x⟩) = none := rfl
theorem right_un (k : Ctx) (t : Nat) (o : Uop) (c : Ex) :
    Ref.right (some ⟨k, .un t o c⟩) = some ⟨.un t o :: k, c⟩ := rfl
@[pyrt] theorem parent_cons (f : Frame) (k : Ctx) (n : Ex) :
    Ref.parent (some ⟨f :: k, n⟩) = some ⟨k, f.fill n⟩ := rfl
@[pyrt] theorem parent_nil (n : Ex) : Ref.parent (some ⟨[], n⟩) = none := rfl

theorem isinstance_parent {c : Cls} {o : Bop} (hc : ∀ e, c.holds e = e.isOp o) (k : Ctx) (n : Ex) :
    isinstance (Ref.parent (some ⟨k, n⟩)) [c] = parentIs o k := by
  cases k with
  | nil => rfl
  | cons f k' => simp only [parent_cons, isinstance_one, hc, isOp_fill, parentIs]

@[pyrt] theorem parent_add (k : Ctx) (n : Ex) :
    isinstance (Ref.parent (some ⟨k, n⟩)) [.AddExpression] = parentIs .add k := isinstance_parent holds_add k n
@[pyrt] theorem parent_mul (k : Ctx) (n : Ex) :
    isinstance (Ref.parent (some ⟨k, n⟩)) [.MultiplyExpression] = parentIs .mul k := isinstance_parent holds_mul k n
@[pyrt] theorem parent_eq (k : Ctx) (n : Ex) :
    isinstance (Ref.parent (some ⟨k, n⟩)) [.EqualExpression] = parentIs .eq k := isinstance_parent holds_eq k n
@[pyrt] theorem isNone_parent (k : Ctx) (n : Ex) : (Ref.parent (some ⟨k, n⟩)).isNone = k.isEmpty := by
  cases k <;> rfl

/-- `if x and isinstance(x, …)`: the truth test adds nothing (`↓`: before the class test is rewritten) -/
@[pyrt ↓] theorem truthy_and_isinstance (r : Ref) (cs : List Cls) :
    (Ref.truthy r && isinstance r cs) = isinstance r cs := by
  cases r <;> rfl

@[pyrt] theorem truthy_some (l : Loc) : Ref.truthy (some l) = true := rfl

/-- `isinstance(node.get_sibling(), MultiplyExpression)`, in the form `csCan` has it -/
@[pyrt] theorem sibling_mul (k : Ctx) (n : Ex) :
    isinstance (Ref.get_sibling (some ⟨k, n⟩)) [.MultiplyExpression]
      = (match sibling? k with | some s => s.isOp .mul | none => false) := by
  rcases k with _ | ⟨f, k'⟩
  · rfl
  · cases f with
    | un ft fo => rfl
    | binL ft p s => exact (isinstance_one _ s _).trans (holds_mul s)
    | binR ft p s => exact (isinstance_one _ s _).trans (holds_mul s)

@[pyrt] theorem get_child_eq_right (r : Ref) : Ref.get_child r = Ref.right r := rfl
@[pyrt] theorem get_root_some (k : Ctx) (e : Ex) : Ref.get_root (some ⟨k, e⟩) = some ⟨[], plug k e⟩ := rfl
@[pyrt] theorem get_root_side_some (k : Ctx) (e : Ex) : Ref.get_root_side (some ⟨k, e⟩) = ctxRootSide k := rfl
@[pyrt] theorem ctxRootSide_snoc : ∀ (inner : Ctx) (rootF : Frame), ctxRootSide (inner ++ [rootF]) = ctxRootSide [rootF]
  | [], _ => rfl
  | [_], _ => rfl
  | _ :: g :: fs, rootF => ctxRootSide_snoc (g :: fs) rootF
@[pyrt] theorem ctxRootSide_binL (t : Nat) (o : Bop) (r : Ex) : ctxRootSide [Frame.binL t o r] = "left" := rfl
@[pyrt] theorem ctxRootSide_binR (t : Nat) (o : Bop) (l : Ex) : ctxRootSide [Frame.binR t o l] = "right" := rfl
@[pyrt] theorem depth_some (k : Ctx) (e : Ex) : Ref.depth (some ⟨k, e⟩) = k.length := rfl
@[pyrt] theorem anyOfType_some (k : Ctx) (e : Ex) (c : Cls) :
    Ref.anyOfType (some ⟨k, e⟩) c = anyHolds c e := rfl
@[pyrt] theorem identifier_var (k : Ctx) (t : Nat) (x : Char) : Ref.identifier (some ⟨k, .var t x⟩) = some x := rfl

@[pyrt] theorem value_const (k : Ctx) (t : Nat) (v : Rat) : Ref.value (some ⟨k, .const t v⟩) = some v := rfl

@[pyrt] theorem numLt_zero (v : Rat) : numLt (some v) 0 = decide (v < 0) := by
  simp [numLt]

@[pyrt] theorem numEq_zero (v : Rat) : numEq (some v) 0 = decide (v = 0) := rfl

/-! the three tests of factor-out's `can_apply_to` on a `FactorResult`, as `dfFactorOk` writes them -/

@[pyrt] theorem numEq_frBest (f : FactorResult) : numEq (frBest (some f)) 1 = (f.best == 1) :=
  (Bool.beq_eq_decide_eq f.best 1).symm

@[pyrt] theorem not_isSome_frVar (f : FactorResult) : (!(frVar (some f)).isSome) = f.comVar.isNone :=
  Option.not_isSome f.comVar

@[pyrt] theorem not_numTruthy_frExp (f : FactorResult) :
    (!numTruthy (frExp (some f))) = (f.comExp.isNone || f.comExp == some 0) := by
  show (!numTruthy f.comExp) = _
  cases f.comExp with
  | none => rfl
  | some q => simp [numTruthy, Bool.beq_eq_decide_eq]

/-! `Ref.get_term_ex` is the specification; `get_term_ex_agree` ties the translated `get_term_ex` to it. -/

theorem get_term_ex_none : Ref.get_term_ex none = none := rfl
@[pyrt] theorem get_term_ex_binL (k : Ctx) (t : Nat) (o : Bop) (r e : Ex) :
    Ref.get_term_ex (some ⟨.binL t o r :: k, e⟩) = getTermEx (o == .pow) e := by
  cases o <;> rfl
@[pyrt] theorem get_term_ex_binR (k : Ctx) (t : Nat) (o : Bop) (l e : Ex) :
    Ref.get_term_ex (some ⟨.binR t o l :: k, e⟩) = getTermEx (o == .pow) e := by
  cases o <;> rfl
theorem get_term_ex_un (k : Ctx) (t : Nat) (o : Uop) (e : Ex) :
    Ref.get_term_ex (some ⟨.un t o :: k, e⟩) = getTermEx false e := rfl
@[pyrt] theorem add_ne_pow : (Bop.add == Bop.pow) = false := rfl
@[pyrt] theorem mul_ne_pow : (Bop.mul == Bop.pow) = false := rfl

/-- `if a: if b: return x`, followed by the code `y` -/
theorem ite_ite_same {α : Type} (a b : Bool) (x y : α) :
    (if a = true then (if b = true then x else y) else y) = if (a && b) = true then x else y := by
  cases a <;> cases b <;> rfl

end Mathy.SrcAgree
