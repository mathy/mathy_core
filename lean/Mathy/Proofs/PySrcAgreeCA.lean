import Mathy.Proofs.PySrcAgree
namespace Mathy.SrcAgree
open Mathy.Py Mathy.Gen.Src

/-- the strings `ConstantsSimplifyRule.get_type` returns -/
def CAType.pyName : CAType → String
  | .simple => "simple"
  | .negationSimple => "negation_simple"
  | .simpleVarMult => "simple_var_multiply"
  | .chainedRight => "chained_right"
  | .chainedRightLeft => "chained_right_left"
  | .chainedRightLeftLeft => "chained_right_left_left"
  | .chainedLeftLeftRight => "chained_left_left_right"
  | .chainedRightDeep => "chained_right_deep"

/-! Each test of `get_type`, as `constants_type_agree` normalises it, fails off the pattern of `caStep` it
stands for: its conjuncts, inverted one level at a time (after each the paths `left?` / `right?` compute
one step further), give the node that shape.  The left sides are the conditions the first `simp only` of
`constants_type_agree` leaves, copied: shape tests on the node, `Cls.….holds` on a path (under `Option.any` no
`holds_*` fires). -/

theorem ca_negation_simple_eq_false {n : Ex}
    (hne : ∀ t tc o ta a tb b,
      n ≠ .un t .neg (.bin tc o (.const ta a) (.const tb b))) :
    (n.isUn .neg && (n.right?.isSome && n.right?.any Cls.BinaryExpression.holds &&
      !n.right?.any Cls.EqualExpression.holds && (n.right?.bind Ex.left?).any Cls.ConstantExpression.holds &&
      (n.right?.bind Ex.right?).any Cls.ConstantExpression.holds)) = false := by
  refine Bool.eq_false_iff.mpr fun h => ?_
  cases n with
  | un t uo c =>
    simp only [pyrt, exshape] at h
    obtain ⟨rfl, ⟨⟨hc, -⟩, hl⟩, hr⟩ := h
    obtain ⟨tc, o, l, r, rfl⟩ := isBin_eq_true hc
    simp only [pyrt] at hl hr
    obtain ⟨ta, a, rfl⟩ := isConst_eq_true hl
    obtain ⟨tb, b, rfl⟩ := isConst_eq_true hr
    exact hne t tc o ta a tb b rfl
  | _ => cases h

theorem ca_simple_eq_false {n : Ex} (hne : ∀ t o ta a tb b, n ≠ .bin t o (.const ta a) (.const tb b)) :
    (n.isBin && !n.isOp .eq && n.left?.any Cls.ConstantExpression.holds &&
      n.right?.any Cls.ConstantExpression.holds) = false := by
  refine Bool.eq_false_iff.mpr fun h => ?_
  simp only [Bool.and_eq_true] at h
  obtain ⟨⟨⟨hn, -⟩, hl⟩, hr⟩ := h
  obtain ⟨t, o, l, r, rfl⟩ := isBin_eq_true hn
  simp only [pyrt] at hl hr
  obtain ⟨ta, a, rfl⟩ := isConst_eq_true hl
  obtain ⟨tb, b, rfl⟩ := isConst_eq_true hr
  exact hne t o ta a tb b rfl

theorem ca_simple_var_multiply_eq_false {n : Ex}
    (hne : ∀ t tl ta a tx x tb b,
      n ≠ .bin t .mul (.bin tl .mul (.const ta a) (.var tx x)) (.const tb b)) :
    (n.isOp .mul && n.left?.any Cls.MultiplyExpression.holds &&
      (n.left?.bind Ex.left?).any Cls.ConstantExpression.holds &&
      (n.left?.bind Ex.right?).any Cls.VariableExpression.holds &&
      n.right?.any Cls.ConstantExpression.holds) = false := by
  refine Bool.eq_false_iff.mpr fun h => ?_
  simp only [Bool.and_eq_true] at h
  obtain ⟨⟨⟨⟨hn, hl⟩, hll⟩, hlr⟩, hr⟩ := h
  obtain ⟨t, l, r, rfl⟩ := Ex.isOp_inv hn
  simp only [pyrt] at hl hll hlr hr
  obtain ⟨tl, ll, lr, rfl⟩ := Ex.isOp_inv hl
  simp only [pyrt] at hll hlr
  obtain ⟨ta, a, rfl⟩ := isConst_eq_true hll
  obtain ⟨tx, x, rfl⟩ := isVar_eq_true hlr
  obtain ⟨tb, b, rfl⟩ := isConst_eq_true hr
  exact hne t tl ta a tx x tb b rfl

theorem ca_chained_right_deep_eq_false {n : Ex}
    (hne : ∀ t o ta a t1 o1 t2 o2 tb b rlr rr,
      n ≠ .bin t o (.const ta a) (.bin t1 o1 (.bin t2 o2 (.const tb b) rlr) rr)) :
    (n.isBin && n.left?.any Cls.ConstantExpression.holds && n.right?.any Cls.BinaryExpression.holds &&
      (n.right?.bind Ex.left?).any Cls.BinaryExpression.holds &&
      ((n.right?.bind Ex.left?).bind Ex.left?).any Cls.ConstantExpression.holds &&
      (n.isOp .add && n.right?.any Cls.AddExpression.holds && (n.right?.bind Ex.left?).any Cls.AddExpression.holds ||
        n.isOp .mul && n.right?.any Cls.MultiplyExpression.holds &&
          (n.right?.bind Ex.left?).any Cls.MultiplyExpression.holds)) = false := by
  refine Bool.eq_false_iff.mpr fun h => ?_
  simp only [Bool.and_eq_true] at h
  obtain ⟨⟨⟨⟨⟨hn, hl⟩, hr⟩, hrl⟩, hrll⟩, -⟩ := h
  obtain ⟨t, o, l, r, rfl⟩ := isBin_eq_true hn
  simp only [pyrt] at hl hr hrl hrll
  obtain ⟨ta, a, rfl⟩ := isConst_eq_true hl
  obtain ⟨t1, o1, rl, rr, rfl⟩ := isBin_eq_true hr
  simp only [pyrt] at hrl hrll
  obtain ⟨t2, o2, rll, rlr, rfl⟩ := isBin_eq_true hrl
  simp only [pyrt] at hrll
  obtain ⟨tb, b, rfl⟩ := isConst_eq_true hrll
  exact hne t o ta a t1 o1 t2 o2 tb b rlr rr rfl

theorem ca_chained_right_eq_false {n : Ex}
    (hne : ∀ t o ta a t1 o1 tb b rr,
      n ≠ .bin t o (.const ta a) (.bin t1 o1 (.const tb b) rr)) :
    (n.isBin && n.left?.any Cls.ConstantExpression.holds && n.right?.any Cls.BinaryExpression.holds &&
      (n.right?.bind Ex.left?).any Cls.ConstantExpression.holds &&
      (n.isOp .add && n.right?.any Cls.AddExpression.holds ||
        n.isOp .mul && n.right?.any Cls.MultiplyExpression.holds)) = false := by
  refine Bool.eq_false_iff.mpr fun h => ?_
  simp only [Bool.and_eq_true] at h
  obtain ⟨⟨⟨⟨hn, hl⟩, hr⟩, hrl⟩, -⟩ := h
  obtain ⟨t, o, l, r, rfl⟩ := isBin_eq_true hn
  simp only [pyrt] at hl hr hrl
  obtain ⟨ta, a, rfl⟩ := isConst_eq_true hl
  obtain ⟨t1, o1, rl, rr, rfl⟩ := isBin_eq_true hr
  simp only [pyrt] at hrl
  obtain ⟨tb, b, rfl⟩ := isConst_eq_true hrl
  exact hne t o ta a t1 o1 tb b rr rfl

theorem ca_chained_right_left_eq_false {n : Ex}
    (hne : ∀ t tl ta a lr tr tb b rr,
      n ≠ .bin t .mul (.bin tl .mul (.const ta a) lr) (.bin tr .mul (.const tb b) rr)) :
    (n.isOp .mul && n.left?.any Cls.MultiplyExpression.holds &&
      (n.left?.bind Ex.left?).any Cls.ConstantExpression.holds && n.right?.any Cls.MultiplyExpression.holds &&
      (n.right?.bind Ex.left?).any Cls.ConstantExpression.holds) = false := by
  refine Bool.eq_false_iff.mpr fun h => ?_
  simp only [Bool.and_eq_true] at h
  obtain ⟨⟨⟨⟨hn, hl⟩, hll⟩, hr⟩, hrl⟩ := h
  obtain ⟨t, l, r, rfl⟩ := Ex.isOp_inv hn
  simp only [pyrt] at hl hll hr hrl
  obtain ⟨tl, ll, lr, rfl⟩ := Ex.isOp_inv hl
  obtain ⟨tr, rl, rr, rfl⟩ := Ex.isOp_inv hr
  simp only [pyrt] at hll hrl
  obtain ⟨ta, a, rfl⟩ := isConst_eq_true hll
  obtain ⟨tb, b, rfl⟩ := isConst_eq_true hrl
  exact hne t tl ta a lr tr tb b rr rfl

theorem ca_chained_right_left_left_eq_false {n : Ex}
    (hne : ∀ t tl ta a lr tr trl tb b rlr rr,
      n ≠ .bin t .mul (.bin tl .mul (.const ta a) lr) (.bin tr .mul (.bin trl .mul (.const tb b) rlr) rr)) :
    (n.isOp .mul && n.left?.any Cls.MultiplyExpression.holds &&
      (n.left?.bind Ex.left?).any Cls.ConstantExpression.holds && n.right?.any Cls.MultiplyExpression.holds &&
      (n.right?.bind Ex.left?).any Cls.MultiplyExpression.holds &&
      ((n.right?.bind Ex.left?).bind Ex.left?).any Cls.ConstantExpression.holds) = false := by
  refine Bool.eq_false_iff.mpr fun h => ?_
  simp only [Bool.and_eq_true] at h
  obtain ⟨⟨⟨⟨⟨hn, hl⟩, hll⟩, hr⟩, hrl⟩, hrll⟩ := h
  obtain ⟨t, l, r, rfl⟩ := Ex.isOp_inv hn
  simp only [pyrt] at hl hll hr hrl hrll
  obtain ⟨tl, ll, lr, rfl⟩ := Ex.isOp_inv hl
  obtain ⟨tr, rl, rr, rfl⟩ := Ex.isOp_inv hr
  simp only [pyrt] at hll hrl hrll
  obtain ⟨ta, a, rfl⟩ := isConst_eq_true hll
  obtain ⟨trl, rll, rlr, rfl⟩ := Ex.isOp_inv hrl
  simp only [pyrt] at hrll
  obtain ⟨tb, b, rfl⟩ := isConst_eq_true hrll
  exact hne t tl ta a lr tr trl tb b rlr rr rfl

theorem ca_chained_left_left_right_eq_false {n : Ex}
    (hne : ∀ t tl ll tlr ta a lrr tr tb b rr,
      n ≠ .bin t .mul (.bin tl .mul ll (.bin tlr .mul (.const ta a) lrr)) (.bin tr .mul (.const tb b) rr)) :
    (n.isOp .mul && n.left?.any Cls.MultiplyExpression.holds &&
      (n.left?.bind Ex.right?).any Cls.MultiplyExpression.holds &&
      ((n.left?.bind Ex.right?).bind Ex.left?).any Cls.ConstantExpression.holds &&
      n.right?.any Cls.MultiplyExpression.holds &&
      (n.right?.bind Ex.left?).any Cls.ConstantExpression.holds) = false := by
  refine Bool.eq_false_iff.mpr fun h => ?_
  simp only [Bool.and_eq_true] at h
  obtain ⟨⟨⟨⟨⟨hn, hl⟩, hlr⟩, hlrl⟩, hr⟩, hrl⟩ := h
  obtain ⟨t, l, r, rfl⟩ := Ex.isOp_inv hn
  simp only [pyrt] at hl hlr hlrl hr hrl
  obtain ⟨tl, ll, lr, rfl⟩ := Ex.isOp_inv hl
  obtain ⟨tr, rl, rr, rfl⟩ := Ex.isOp_inv hr
  simp only [pyrt] at hlr hlrl hrl
  obtain ⟨tlr, lrl, lrr, rfl⟩ := Ex.isOp_inv hlr
  simp only [pyrt] at hlrl
  obtain ⟨ta, a, rfl⟩ := isConst_eq_true hlrl
  obtain ⟨tb, b, rfl⟩ := isConst_eq_true hrl
  exact hne t tl ll tlr ta a lrr tr tb b rr rfl

/-- The translator prints the eight `if …: return …` blocks of `get_type` as a tree that repeats
the rest of the function in every `else`; `ite_ite_same` folds it back into eight tests in a row,
and the path lemmas (`focus_left` …) turn each into a test on the node `n` itself.  The model is a
`match` with its patterns in the same order, and `split` gives first-match semantics: in
alternative `i` the tests before the `i`-th fail and the `i`-th succeeds by computation.  Where no
pattern matches (the last alternative, and a unary node that is not the negation of `const op const`)
the tests fail by the lemmas above. -/
theorem constants_type_agree (k : Ctx) (n : Ex) :
    (ConstantsSimplifyRule_get_type (some ⟨k, n⟩)).map (·.1) = (caType n).map CAType.pyName := by
  simp only [ConstantsSimplifyRule_get_type, ite_ite_same, isinstance_focus, isSome_focus,
    focus_left, focus_right, focus_some, apply_ite (Option.map _), pyrt]
  unfold caType caStep
  symm
  split
  next o _ a _ b => cases o <;> rfl  -- negation_simple
  next t uo c hNeg =>  -- any other unary node: no type
    -- here `hNeg` speaks of `uo` and `c`, the node being unary already
    have hne : ∀ t' tc o ta a tb b, Ex.un t uo c ≠ .un t' .neg (.bin tc o (.const ta a) (.const tb b)) := by
      intro t' tc o ta a tb b e
      cases e
      exact hNeg tc o ta a tb b rfl rfl
    rw [ca_negation_simple_eq_false hne]
    rfl
  next o _ a _ b => cases o <;> rfl  -- simple
  next => rfl  -- simple_var_multiply
  next o _ a _ o1 _ o2 _ b rlr rr =>  -- chained_right_deep
    simp only [pyrt, exshape]
    cases o with
    | add | mul => cases o1 <;> cases o2 <;> rfl
    | _ => rfl
  next o _ a _ o1 _ b rr =>  -- chained_right
    simp only [pyrt, exshape]
    cases o with
    | add | mul => cases o1 <;> rfl
    | _ => rfl
  next =>  -- chained_right_left
    simp only [pyrt, exshape]
    rfl
  next =>  -- chained_right_left_left
    simp only [pyrt, exshape]
    rfl
  next =>  -- chained_left_left_right
    simp only [pyrt, exshape]
    rfl
  next hNeg _ hSimple hVarMul hDeep hRight hRL hRLL hLLR =>  -- no pattern matches
    simp only [ca_negation_simple_eq_false hNeg, ca_simple_eq_false hSimple, ca_simple_var_multiply_eq_false hVarMul,
      ca_chained_right_deep_eq_false hDeep, ca_chained_right_eq_false hRight, ca_chained_right_left_eq_false hRL,
      ca_chained_right_left_left_eq_false hRLL, ca_chained_left_left_right_eq_false hLLR, Bool.false_eq_true,
      if_false]
    rfl

theorem constants_can_agree (k : Ctx) (n : Ex) :
    (ConstantsSimplifyRule_get_type (some ⟨k, n⟩)).isSome = caCan n := by
  have h := congrArg Option.isSome (constants_type_agree k n)
  simpa [caCan, caType] using h

end Mathy.SrcAgree
