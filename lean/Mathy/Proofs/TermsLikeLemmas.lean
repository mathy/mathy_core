/-
The term predicates of `Model/TermsLike.lean` in the terms the C16 proofs use: a duplicate key is
`¬ Nodup` (hence invariant under permutation), on a sum `getTerms` is `sumChildren`, and two keys
are like iff they have the same `likeClass`.
-/
import Mathy.Model.TermsLike
import Mathy.Proofs.ExLemmas
namespace Mathy

theorem hasDup_iff (l : List TermKey) : hasDup l = true ↔ ¬ l.Nodup := by
  induction l with
  | nil => simp [hasDup]
  | cons k ks ih =>
    simp only [hasDup, Bool.or_eq_true, ih, List.nodup_cons, List.contains_iff_mem]
    by_cases h : k ∈ ks <;> simp [h]

theorem hasDup_perm {l l' : List TermKey} (h : l.Perm l') : hasDup l = hasDup l' := by
  rw [Bool.eq_iff_iff, hasDup_iff, hasDup_iff, h.nodup_iff]

theorem isAddSub_of_isOp_add {t : Ex} (h : t.isOp .add = true) : t.isAddSub = true := by
  obtain ⟨_, _, _, rfl⟩ := Ex.isOp_inv h
  rfl

theorem isConst_of_isOp_add {t : Ex} (h : t.isOp .add = true) : t.isConst = false := by
  obtain ⟨_, _, _, rfl⟩ := Ex.isOp_inv h
  rfl

theorem countFreeConsts_add (t : Nat) (a b : Ex) :
    countFreeConsts (.bin t .add a b) =
      countFreeConsts a + countFreeConsts b + ((if a.isConst then 1 else 0) + (if b.isConst then 1 else 0)) := rfl

theorem sumChildren_add (t : Nat) (a b : Ex) :
    sumChildren (.bin t .add a b) =
      sumChildren a ++ ((if a.isAddSub then [] else [a]) ++ (if b.isAddSub then [] else [b])) ++ sumChildren b := rfl

theorem sumChildren_ne_nil (t : Ex) (h : t.isAddSub = true) : sumChildren t ≠ [] := by
  induction t with
  | const | var | un => simp [Ex.isAddSub] at h
  | bin tg o l r ihl _ =>
    simp only [Ex.isAddSub] at h
    simp only [sumChildren, h, if_true]
    by_cases hl : l.isAddSub = true
    · have := ihl hl
      simp [this]
    · simp [hl]

theorem getTerms_of_isAddSub {t : Ex} (h : t.isAddSub = true) : getTerms t = sumChildren t := by
  have hm : t.isOp .mul = false := by
    cases t with
    | bin _ o _ _ =>
      cases o with
      | mul => cases h
      | _ => rfl
    | _ => rfl
  unfold getTerms
  simp [hm, sumChildren_ne_nil t h]

theorem getTerms_of_isOp_add {t : Ex} (h : t.isOp .add = true) : getTerms t = sumChildren t :=
  getTerms_of_isAddSub (isAddSub_of_isOp_add h)

/-- what `terms_are_like` compares: all variable-free terms form one class; the length is there because the
Python tests it separately (that `sortChars` keeps it is not proved) -/
def likeClass (k : TermKey) : Option (Nat × List Char × Option Rat) :=
  if k.vars.isEmpty then none else some (k.vars.length, sortChars k.vars, k.exp)

theorem termsAreLike_iff (a b : TermKey) : termsAreLike a b = true ↔ likeClass a = likeClass b := by
  unfold termsAreLike likeClass
  cases a.vars <;> cases b.vars <;> simp [and_assoc]

end Mathy
