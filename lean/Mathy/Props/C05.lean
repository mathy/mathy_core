/-
Property C05 — evaluation computes the mathematically correct number.
Model: `Model/PyEval.lean` (`pyEval` with Python's int / float typing; floats idealised as exact
rationals; NaN is a value; exceptions abort).  The "within a few ulps" clause is about IEEE
rounding, which is not formalised: it is decided by the correspondence run only (partial).
-/
import Mathy.Proofs.PyEvalNode
namespace Mathy

/-- the integer denotation; `none` outside the integer fragment (a float literal, `/`, `=`)
and where mathematics gives no integer (negative exponent, factorial of a negative number) -/
def zDenote (env : Char → Int) : PEx → Option Int
  | .cint z => some z
  | .cflt _ => none
  | .var x => some (env x)
  | .un o c => match zDenote env c with
    | none => none
    | some a => match o with
      | .neg => some (-a)
      | .sgn => some (if a < 0 then -1 else if 0 < a then 1 else 0)
      | .abs => some (if a < 0 then -a else a)
      | .fact => if a < 0 then none else some (factNat a.toNat)
  | .bin o l r => match zDenote env l, zDenote env r with
    | some a, some b => match o with
      | .add => some (a + b)
      | .sub => some (a - b)
      | .mul => some (a * b)
      | .pow => if 0 ≤ b then some (a ^ b.toNat) else none
      | _ => none
    | _, _ => none

/-- **exactness**: on the integer fragment, with integer assignments of ANY magnitude, evaluation
returns exactly the mathematical integer (never a wrapped, rounded or float value) -/
theorem C05_int_exact (env : Char → Int) (t : PEx) (z : Int)
    (hz : zDenote env t = some z) : pyEval (fun c => some (.int (env c))) t = .ok (.int z) := by
  induction t generalizing z with
  | cint | var => cases hz; rfl
  | cflt => cases hz
  | un o c ih =>
    cases hc : zDenote env c with
    | none => simp [zDenote, hc] at hz
    | some a =>
      simp only [zDenote, hc] at hz
      rw [pyEval_un, ih a hc]
      -- on an int `pyUn` is the integer operation `zDenote` names
      cases o with
      | neg | sgn | abs => cases hz; rfl
      | fact =>
        -- both refuse the factorial of a negative number
        dsimp only at hz
        split at hz
        next => cases hz
        next ha => cases hz; exact if_neg ha
  | bin o l r ihl ihr =>
    cases hl : zDenote env l with
    | none => simp [zDenote, hl] at hz
    | some a =>
      cases hr : zDenote env r with
      | none => simp [zDenote, hl, hr] at hz
      | some b =>
        simp only [zDenote, hl, hr] at hz
        rw [pyEval_bin, ihl a hl, ihr b hr]
        cases o with
        -- on two ints `pyArith` is the integer operation
        | add | sub | mul => cases hz; rfl
        | div | eq => cases hz
        | pow =>
          -- for an exponent ≥ 0 `pyPow` on two ints is the exact power
          dsimp only at hz
          split at hz
          next hb => cases hz; exact if_pos hb
          next => cases hz

def mentions (x : Char) : PEx → Bool
  | .var y => x == y
  | .un _ c => mentions x c
  | .bin _ l r => mentions x l || mentions x r
  | _ => false

/-- a variable without a value (missing from the context or `None`) is an error, never a
default, wherever it occurs in the tree -/
theorem C05_unbound_is_error (env : PyEnv) (t : PEx) (x : Char) (hx : mentions x t = true)
    (he : env x = none) : ∃ e, pyEval env t = .error e := by
  induction t with
  | cint | cflt => simp [mentions] at hx
  | var y =>
    obtain rfl : x = y := by simpa [mentions] using hx
    exact ⟨.unboundVariable, by simp [pyEval, he]⟩
  | un o c ih =>
    obtain ⟨e, h⟩ := ih (by simpa [mentions] using hx)
    exact ⟨e, by rw [pyEval_un, h]; rfl⟩
  | bin o l r ihl ihr =>
    simp only [mentions, Bool.or_eq_true] at hx
    rcases hx with hx | hx
    · obtain ⟨e, h⟩ := ihl hx
      exact ⟨e, by rw [pyEval_bin, h]; rfl⟩
    · obtain ⟨e, h⟩ := ihr hx
      cases hl : pyEval env l with
      | error e' => exact ⟨e', by rw [pyEval_bin, hl]; rfl⟩
      | ok a => exact ⟨e, by rw [pyEval_bin, hl, h]; rfl⟩

/-- division by zero yields NaN (for an int or float zero) -/
theorem C05_div_by_zero (a : PyVal) : pyBin .div a (.int 0) = .ok .nan ∧ pyBin .div a (.flt 0) = .ok .nan := by
  cases a <;> simp [pyBin, pyDiv, PyVal.toRat?]

/-- NaN propagates through `+ - * /` and negation -/
theorem C05_nan_propagates (o : Bop) (ho : o = .add ∨ o = .sub ∨ o = .mul ∨ o = .div) (b : PyVal) :
    pyBin o .nan b = .ok .nan ∧ pyBin o b .nan = .ok .nan ∧ pyUn .neg .nan = .ok .nan := by
  rcases ho with rfl | rfl | rfl | rfl <;> cases b <;> simp [pyBin, pyArith, pyDiv, pyUn, pyNeg, PyVal.toRat?]

/-- an equation evaluates to its common (left) value when the sides are equal and raises when
they differ -/
theorem C05_equation (env : PyEnv) (l r : PEx) (a b : PyVal)
    (hl : pyEval env l = .ok a) (hr : pyEval env r = .ok b) :
    pyEval env (.bin .eq l r) = if pyEq a b then .ok a else .error .equationDidNotHold := by
  rw [pyEval_bin, hl, hr]
  rfl

example : pyEval (fun _ => none) (.bin .pow (.cint 2) (.cint 64)) = .ok (.int 18446744073709551616) := by
  rfl
example : zDenote (fun _ => 10 ^ 30) (.bin .mul (.var 'x') (.un .fact (.cint 25)))
    = some (10 ^ 30 * 15511210043330985984000000) := by decide +kernel

end Mathy
