/-
Property C17 for the GENERATORS themselves (pretty-number mode), modelled as functions of an explicit
stream of random draws (Model/ProblemGen.lean; the real generators are replayed on recorded draws
against this model on every run).  For EVERY stream and every admissible parameter setting: a problem
whose text the parser accepts, a positive complexity and, where promised, a pair of like terms.
The bounds on the parameters come from `get_rand_vars`, which draws distinct letters from the 24 of
`variables` without those it is told to exclude.
-/
import Mathy.Proofs.ProblemGenLemmas
import Mathy.Props.C17
namespace Mathy
open Gen

theorem term_key (c : Option PNum) (v : Char) (p : Option (List Char)) :
    (PItem.term c v p).key = some (v, p) := rfl

/-- **C17, `gen_combine_terms_in_place`**: `2 ≤ min_terms ≤ max_terms`.  No upper bound: the generator
caps the number of terms at `len(variables) + 1` = 25, that is 23 noise variables beside the focus
variable. -/
theorem C17_combine_valid (minT maxT : Nat) (easy powers : Bool) (s : Stream) (h1 : 2 ≤ minT) (h2 : minT ≤ maxT) :
    ∃ p cx, combineTermsInPlace minT maxT easy powers s = some (p, cx) ∧
      p.ok = true ∧ 0 < cx ∧ p.promisesLike = true := by
  unfold combineTermsInPlace
  have hT := randint_ge minT maxT s
  have hpool := pool_nodup_length.2
  rw [if_neg (by omega)]
  simp only []
  rw [if_neg (by omega)]
  generalize hg : getRandVarsS _ _ _ = G
  obtain ⟨vs, s1, rfl, -⟩ := getRandVarsS_spec hg (by simp only [List.length_singleton]; omega)
  simp only []
  generalize ho : haystackFinish _ _ _ _ _ _ = o
  obtain ⟨p, nl, nr, rfl, hok, hl⟩ := haystackFinish_valid (mid := []) ho (maybeNumber_ok _ _) (maybeNumber_ok _ _)
    (maybePower_ok _ _) (by simp)
  exact ⟨p, _, rfl, hok, by omega, hl⟩

/-- **C17, `gen_commute_haystack`**: `min_terms ≤ max_terms ≤ 25`, `1 ≤ commute_blockers ≤ 23`.  The
`max(total - 2, blockers)` noise variables are drawn without the focus variable, so at most 23.  Without
a blocker the real generator joins an empty list and prints `x +  + x`. -/
theorem C17_haystack_valid (minT maxT blockers : Nat) (easy powers : Bool) (s : Stream)
    (h2 : minT ≤ maxT) (h3 : maxT ≤ 25) (hb1 : 1 ≤ blockers) (hb2 : blockers ≤ 23) :
    ∃ p cx, commuteHaystack minT maxT blockers easy powers s = some (p, cx) ∧
      p.ok = true ∧ 0 < cx ∧ p.promisesLike = true := by
  unfold commuteHaystack
  have hT := randint_le minT maxT s h2
  rw [if_neg (by omega)]
  simp only []
  generalize hg : getRandVarsS _ _ _ = G
  obtain ⟨vs, s1, rfl, -⟩ := getRandVarsS_spec hg (by simp only [List.length_singleton]; omega)
  simp only [List.cons_append, List.nil_append]
  generalize ho : haystackFinish _ _ _ _ _ _ = o
  obtain ⟨p, nl, nr, rfl, hok, hl⟩ := haystackFinish_valid ho (maybeNumber_ok _ _) (maybeNumber_ok _ _)
    (maybePower_ok _ _) (noiseTerms_ok _ _ _ _)
  exact ⟨p, _, rfl, hok, by omega, hl⟩

/-- **C17, `gen_move_around_blockers_one`**: up to 23 blockers (the variable of the two like terms is
excluded). -/
theorem C17_blockers_one_valid (n : Nat) (pp : Rat) (s : Stream) (hn : n ≤ 23) :
    ∃ p cx, moveAroundBlockersOne n pp s = some (p, cx) ∧ p.ok = true ∧ 0 < cx ∧ p.promisesLike = true := by
  unfold moveAroundBlockersOne
  simp only []
  generalize hb : getBlocker _ _ _ = B
  obtain ⟨bs, s', rfl, hbs⟩ := getBlocker_spec hb (by simp only [List.length_singleton]; omega)
  simp only [List.cons_append, List.nil_append]
  generalize ho : sumProblem _ _ = o
  obtain ⟨p, rfl, hok, hl⟩ := sumProblem_valid (l := []) (r := []) ho (by simpa [or_imp, forall_and] using hbs)
    (by simp)
  exact ⟨p, _, rfl, hok, by omega, hl⟩

/-- **C17, `gen_move_around_blockers_two`**: up to 21 blockers (the three variables of the outer terms
are excluded). -/
theorem C17_blockers_two_valid (n : Nat) (pp : Rat) (s : Stream) (hn : n ≤ 21) :
    ∃ p cx, moveAroundBlockersTwo n pp s = some (p, cx) ∧ p.ok = true ∧ 0 < cx ∧ p.promisesLike = true := by
  unfold moveAroundBlockersTwo
  generalize hg : getRandVarsS _ _ _ = G
  obtain ⟨vs, s1, rfl, hlen⟩ := getRandVarsS_spec hg (by simp)
  match vs, hlen with
  | [one, two, three], _ =>
    simp only []
    generalize hb : getBlocker _ _ _ = B
    obtain ⟨bs, s', rfl, hbs⟩ := getBlocker_spec hb (by simp only [List.length_cons, List.length_nil]; omega)
    simp only [List.cons_append, List.nil_append]
    generalize ho : sumProblem _ _ = o
    obtain ⟨p, rfl, hok, hl⟩ := sumProblem_valid (l := [_]) (r := [_]) ho (by simpa [or_imp, forall_and] using hbs)
      (by simp)
    exact ⟨p, _, rfl, hok, by omega, hl⟩

/-- **C17, `gen_binomial_times_binomial`**: `min_vars ≤ max_vars ≤ 4`.  The variables go into the four
term slots `terms[i]` of `(a + b)(c + d)`; a fifth is Python's IndexError. -/
theorem C17_binomial_binomial_valid (minV maxV : Nat) (simple : Bool) (pp lp : Rat) (s : Stream)
    (h1 : minV ≤ maxV) (h2 : maxV ≤ 4) :
    ∃ p cx, binomialTimesBinomial minV maxV simple pp lp s = some (p, cx) ∧ p.ok = true ∧ 0 < cx := by
  unfold binomialTimesBinomial
  simp only []
  have hN := fun s => Nat.le_trans (randint_le minV maxV s h1) h2
  rw [if_neg (by omega), if_neg (Nat.not_lt.2 (hN _))]
  generalize hv : binomialVars _ _ _ _ _ = BV
  obtain ⟨vars, s4, rfl, hpow⟩ := binomialVars_spec hv (Nat.le_trans (hN _) (by omega))
  simp only []
  obtain ⟨hlen, hok⟩ := binomialTerms_spec simple 4 vars s4 hpow
  generalize binomialTerms simple 4 vars s4 = BT at hlen hok ⊢
  obtain ⟨ts, s5⟩ := BT
  match ts, hlen with
  | [t0, t1, t2, t3], _ =>
    simp only [List.forall_mem_cons] at hok
    obtain ⟨o0, o1, o2, o3, -⟩ := hok
    refine ⟨_, _, rfl, ?_, by omega⟩
    simp [BinomialProblem.ok, shuffle2_ok _ _ _ o0 o2, shuffle2_ok _ _ _ o1 o3]

/-- **C17, `gen_binomial_times_monomial`**: `min_vars ≤ max_vars ≤ 3`, the three term slots of
`(a + b) * c`. -/
theorem C17_binomial_monomial_valid (minV maxV : Nat) (simple : Bool) (pp lp : Rat) (s : Stream)
    (h1 : minV ≤ maxV) (h2 : maxV ≤ 3) :
    ∃ p cx, binomialTimesMonomial minV maxV simple pp lp s = some (p, cx) ∧ p.ok = true ∧ 0 < cx := by
  unfold binomialTimesMonomial
  simp only []
  have hN := fun s => Nat.le_trans (randint_le minV maxV s h1) h2
  rw [if_neg (by omega), if_neg (Nat.not_lt.2 (hN _))]
  generalize hv : binomialVars _ _ _ _ _ = BV
  obtain ⟨vars, s4, rfl, hpow⟩ := binomialVars_spec hv (Nat.le_trans (hN _) (by omega))
  simp only []
  obtain ⟨hlen, hok⟩ := binomialTerms_spec simple 3 vars s4 hpow
  generalize binomialTerms simple 3 vars s4 = BT at hlen hok ⊢
  obtain ⟨ts, s5⟩ := BT
  match ts, hlen with
  | [t0, t1, t2], _ =>
    simp only [List.forall_mem_cons] at hok
    obtain ⟨o0, o1, o2, -⟩ := hok
    refine ⟨_, _, rfl, ?_, by omega⟩
    simp [BinomialProblem.ok, shuffle2_ok _ _ _ o0 o2, o1]

/-- **C17, `gen_simplify_multiple_terms`**: `num_terms ≥ 2`, 1 to 24 like variables, noise terms + like
variables ≤ 24 (the noise variables are drawn from the letters the like variables leave; without a
`noise_terms` argument `min(5, max(1, num_terms // 3))` are asked for). -/
theorem C17_simplify_valid (numTerms numLike : Nat) (optionalVar : Bool) (spec : OpSpec)
    (pp ovp np sp svp gp : Rat) (noiseArg : Option Nat) (s : Stream)
    (h2 : 2 ≤ numTerms) (hl1 : 1 ≤ numLike) (hl2 : numLike ≤ 24)
    (hn : (match noiseArg with | some n => n | none => 5) + numLike ≤ 24) :
    ∃ p cx, simplifyMultipleTerms numTerms numLike optionalVar spec pp ovp np sp svp gp noiseArg s = some (p, cx) ∧
      p.ok = true ∧ 0 < cx := by
  unfold simplifyMultipleTerms
  simp only []
  rw [if_neg (by omega)]
  generalize hNL : (if numTerms = 2 then 1 else numLike) = NL
  have hNL1 : 1 ≤ NL ∧ NL ≤ numLike := by rw [← hNL]; split <;> omega
  generalize hg : getRandVarsS _ _ _ = G
  obtain ⟨likeVars, s1, rfl, hlvlen⟩ := getRandVarsS_spec hg (by simp only [List.length_nil]; omega)
  simp only []
  obtain ⟨hA1, hA2⟩ := simplifyTemplates_spec numTerms NL (randBool np (randBool gp s).2).1 pp svp likeVars s1
    hlvlen hNL1.1
  generalize simplifyTemplates numTerms NL _ pp svp likeVars s1 = A at hA1 hA2 ⊢
  obtain ⟨templates, s2⟩ := A
  obtain ⟨ts, cx, s3, hB, hB1, hB2, hB3⟩ := simplifyNoise_spec (randBool np (randBool gp s).2).1 numTerms noiseArg pp
    likeVars templates s2 hA1 hA2 (hlvlen ▸ Nat.le_trans (Nat.add_le_add_left hNL1.2 _) hn)
  simp only [hB]
  obtain ⟨p, hC, hpok⟩ := simplifyFinish_spec (randBool gp s).1 sp spec optionalVar ovp ts cx s3 (by omega) hB2
  exact ⟨p, cx, hC, hpok, by omega⟩

/-- what C17 promises of a generated problem -/
def ValidProblem (r : Option (FlatProblem × Nat)) : Prop :=
  ∃ p cx e, r = some (p, cx) ∧ 0 < cx ∧ parseToks (p.toks ++ [eofTok]) = .ok e ∧ hasLikeTerms e = true

theorem valid_of (r : Option (FlatProblem × Nat))
    (h : ∃ p cx, r = some (p, cx) ∧ p.ok = true ∧ 0 < cx ∧ p.promisesLike = true) : ValidProblem r := by
  obtain ⟨p, cx, hr, hok, hcx, hl⟩ := h
  obtain ⟨e, he⟩ := C17_flat_parses p hok
  exact ⟨p, cx, e, hr, hcx, he, C17_like_promise p hok hl e he⟩

/-- **C17, end to end (model generators, every stream of draws).** -/
theorem C17_generators_valid (s : Stream) :
    (∀ minT maxT easy powers, 2 ≤ minT → minT ≤ maxT → ValidProblem (combineTermsInPlace minT maxT easy powers s)) ∧
    (∀ minT maxT blockers easy powers, minT ≤ maxT → maxT ≤ 25 → 1 ≤ blockers → blockers ≤ 23 →
      ValidProblem (commuteHaystack minT maxT blockers easy powers s)) ∧
    (∀ n pp, n ≤ 23 → ValidProblem (moveAroundBlockersOne n pp s)) ∧
    (∀ n pp, n ≤ 21 → ValidProblem (moveAroundBlockersTwo n pp s)) ∧
    (∀ minV maxV simple pp lp, minV ≤ maxV → maxV ≤ 4 → ∃ p cx e,
      binomialTimesBinomial minV maxV simple pp lp s = some (p, cx) ∧ 0 < cx ∧ parseToks (p.toks ++ [eofTok]) = .ok e) ∧
    (∀ minV maxV simple pp lp, minV ≤ maxV → maxV ≤ 3 → ∃ p cx e,
      binomialTimesMonomial minV maxV simple pp lp s = some (p, cx) ∧ 0 < cx ∧ parseToks (p.toks ++ [eofTok]) = .ok e) ∧
    (∀ numTerms numLike optionalVar spec pp ovp np sp svp gp noiseArg, 2 ≤ numTerms → 1 ≤ numLike → numLike ≤ 24 →
      (match noiseArg with | some n => n | none => 5) + numLike ≤ 24 → ∃ p cx e,
      simplifyMultipleTerms numTerms numLike optionalVar spec pp ovp np sp svp gp noiseArg s = some (p, cx) ∧
        0 < cx ∧ parseToks (p.toks ++ [eofTok]) = .ok e) :=
  ⟨fun a b e p h1 h2 => valid_of _ (C17_combine_valid a b e p s h1 h2),
   fun a b c e p h1 h2 h3 h4 => valid_of _ (C17_haystack_valid a b c e p s h1 h2 h3 h4),
   fun n pp h => valid_of _ (C17_blockers_one_valid n pp s h),
   fun n pp h => valid_of _ (C17_blockers_two_valid n pp s h),
   fun a b sv pp lp h1 h2 => by
     obtain ⟨p, cx, hr, hok, hcx⟩ := C17_binomial_binomial_valid a b sv pp lp s h1 h2
     obtain ⟨e, he⟩ := C17_binomial_parses p hok
     exact ⟨p, cx, e, hr, hcx, he⟩,
   fun a b sv pp lp h1 h2 => by
     obtain ⟨p, cx, hr, hok, hcx⟩ := C17_binomial_monomial_valid a b sv pp lp s h1 h2
     obtain ⟨e, he⟩ := C17_binomial_parses p hok
     exact ⟨p, cx, e, hr, hcx, he⟩,
   fun nt nl ov spec pp ovp np sp svp gp na h2 h3 h4 h5 => by
     obtain ⟨p, cx, hr, hok, hcx⟩ := C17_simplify_valid nt nl ov spec pp ovp np sp svp gp na s h2 h3 h4 h5
     obtain ⟨e, he⟩ := C17_flat_parses p hok
     exact ⟨p, cx, e, hr, hcx, he⟩⟩

/-! non-vacuity: one concrete stream -/
example : (combineTermsInPlace 4 6 true false [1, 3, 50, 90, 5, 10, 7, 2, 1, 0, 4, 3, 2, 1, 0, 99, 20, 3, 50, 2, 90]).isSome = true := by
  decide +kernel

end Mathy
