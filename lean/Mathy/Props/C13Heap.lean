/-
Property C13 at the pointer level (generic `BinaryTreeNode.clone`): cloning a tree that the heap
represents allocates only new cells, which represent a tree of the same shape with a parentless root,
and leaves every existing cell as it was: the original is still what it was, and the two trees share
no node object (disjoint address ranges), so a later write to one cannot be seen through the other.
-/
import Mathy.Proofs.HeapClone
namespace Mathy

theorem C13_heap_clone (h : Heap) (t : BT) (par : Option Nat) (a base fuel : Nat)
    (hrep : Rep h t par) (hroot : t.rootId = some a) (hfresh : ∀ i ∈ t.ids, i < base)
    (hfuel : t.depth ≤ fuel) :
    (h.clone fuel a base).2.1 = base ∧
    (h.clone fuel a base).2.2 = (t.relabel base).2 ∧
    (t.relabel base).2 = base + t.size ∧
    Rep (h.clone fuel a base).1 (t.relabel base).1 none ∧
    (∀ i, (i < base ∨ (t.relabel base).2 ≤ i) → (h.clone fuel a base).1 i = h i) := by
  obtain ⟨h', e, hrep', hfr⟩ := clone_spec t fuel h par a base hrep hroot hfresh hfuel
  rw [e]
  refine ⟨rfl, rfl, BT.relabel_snd t base, hrep', fun i hi => hfr i fun hm => ?_⟩
  have := BT.relabel_ids t base i hm
  omega

theorem C13_heap_clone_original_untouched (h : Heap) (t : BT) (par : Option Nat) (a base fuel : Nat)
    (hrep : Rep h t par) (hroot : t.rootId = some a) (hfresh : ∀ i ∈ t.ids, i < base)
    (hfuel : t.depth ≤ fuel) : Rep (h.clone fuel a base).1 t par := by
  obtain ⟨-, -, -, -, e⟩ := C13_heap_clone h t par a base fuel hrep hroot hfresh hfuel
  exact hrep.frame (fun x hx => e x (Or.inl (hfresh x hx)))

/-- the copy has the original's size and depth, in the new cells only (that the shape itself is kept is
read off `BT.relabel`, not stated) -/
theorem C13_relabel_same_shape (t : BT) (base : Nat) :
    (t.relabel base).1.size = t.size ∧ (t.relabel base).1.depth = t.depth ∧
    ∀ i ∈ (t.relabel base).1.ids, base ≤ i ∧ i < (t.relabel base).2 :=
  ⟨BT.relabel_size t base, BT.relabel_depth t base, BT.relabel_ids t base⟩

end Mathy
