/-
Property C15 — rotation preserves the in-order sequence and link consistency.
Model: `Model/Tree.lean`: functional `rotateAt` and the pointer-level `Heap.rotate`
(a statement-by-statement transcription of `BinaryTreeNode.rotate`).
-/
import Mathy.Proofs.HeapRotate
namespace Mathy
open BT

/-- rotating the root changes nothing -/
theorem C15_rotate_root (t : BT) : t.rotateAt [] = t := by
  cases t <;> rfl

/-- rotating any node keeps the in-order sequence of node objects exactly -/
theorem C15_rotate_inorder (t : BT) (p : Path) : (t.rotateAt p).ids = t.ids := by
  rcases List.eq_nil_or_concat p with rfl | ⟨q, d, rfl⟩
  · rw [C15_rotate_root]
  · rw [List.concat_eq_append, rotateAt_snoc]
    exact ids_replaceAt (rotateTop_ids _ d)

/-- the rotated node moves above its parent -/
theorem C15_rotate_moves_up (pid nid : Nat) (a b c : BT) :
    (BT.node pid (.node nid a b) c).rotateAt [.L] = .node nid a (.node pid b c) ∧
    (BT.node pid a (.node nid b c)).rotateAt [.R] = .node nid (.node pid a b) c := by
  constructor
  · simpa only [rotateAt_singleton, fork_L] using rotateTop_fork pid nid .L a b c
  · simpa only [rotateAt_singleton, fork_R] using rotateTop_fork pid nid .R c b a

/-- pointer level, root: a node without parent is left alone -/
theorem C15_heap_rotate_root (h : Heap) (n : Nat) (hp : (h n).parent = none) : h.rotate n = h := by
  simp [Heap.rotate, hp]

/-- **pointer level.**  If the heap represents the tree `t` with distinct node objects and `n` is the
node at the non-empty path `p`, then after the literal pointer assignments of `n.rotate()` it represents
the functionally rotated tree: all parent/child links are again mutually consistent and the
grandparent points at `n`. -/
theorem C15_heap_rotate (h : Heap) (t : BT) (p : Path) (n : Nat)
    (hrep : Rep h t none) (hnd : t.ids.Nodup) (hp : p ≠ []) (hn : (t.sub p).rootId = some n) :
    Rep (h.rotate n) (t.rotateAt p) none :=
  (heap_rotate_frame h t none p n hrep hnd (fun _ e => nomatch e) hp hn).1

example : (BT.node 1 (.node 2 (.node 3 .nil .nil) (.node 4 .nil .nil)) (.node 5 .nil .nil)).rotateAt [.L]
    = .node 2 (.node 3 .nil .nil) (.node 1 (.node 4 .nil .nil) (.node 5 .nil .nil)) := by decide

end Mathy
