/-
Property C16 — `terms_are_like` is an equivalence relation (the property asks for
reflexive and symmetric; transitivity is what makes "like" a partition of the terms), and what
`has_like_terms` answers, said without the scan.
-/
import Mathy.Props.C16
namespace Mathy

/-- `terms_are_like` is transitive, hence (with `C16_termsAreLike_refl/_symm`) an equivalence -/
theorem C16_termsAreLike_trans (a b c : TermKey)
    (hab : termsAreLike a b = true) (hbc : termsAreLike b c = true) : termsAreLike a c = true := by
  rw [termsAreLike_iff] at *
  exact hab.trans hbc

/-- `has_like_terms` in words: two different positions of the analysable terms carry one key, or at least two
constants are direct operands of additions / subtractions -/
theorem C16_hasLike_iff (e : Ex) :
    hasLikeTerms e = true ↔
      (∃ i j : Nat, ∃ k : TermKey, i < j ∧
          ((getTerms e).filterMap getTermKey)[i]? = some k ∧
          ((getTerms e).filterMap getTermKey)[j]? = some k) ∨ 2 ≤ countFreeConsts e := by
  unfold hasLikeTerms
  rw [Bool.or_eq_true, hasDup_iff, decide_eq_true_eq]
  apply or_congr _ Iff.rfl
  generalize (getTerms e).filterMap getTermKey = ks
  rw [List.nodup_iff_pairwise_ne, List.pairwise_iff_getElem]
  constructor
  · intro h
    by_contra hne
    apply h
    intro i j hi hj hij heq
    exact hne ⟨i, j, ks[i], hij, by simp [hi], by rw [heq]; simp [hj]⟩
  · rintro ⟨i, j, k, hij, hi, hj⟩ h
    rcases List.getElem?_eq_some_iff.mp hi with ⟨hil, hiv⟩
    rcases List.getElem?_eq_some_iff.mp hj with ⟨hjl, hjv⟩
    exact h i j hil hjl hij (hiv.trans hjv.symm)

/-- non-vacuity: `2x + 3x` has like terms through the first disjunct -/
example : hasLikeTerms (.bin 0 .add (.bin 0 .mul (.const 0 2) (.var 0 'x'))
    (.bin 0 .mul (.const 0 3) (.var 0 'x'))) = true := by decide +kernel

end Mathy
