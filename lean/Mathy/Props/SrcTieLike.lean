/-
Source tie for C16: `get_terms`, `terms_are_like`, `has_like_terms` and `make_term` as translated from the
live util.py (`Gen/PySrcLike.lean`, regenerated on every run) compute exactly the model's `getTerms`,
`termsAreLike`, `hasLikeTerms` and `makeTerm`; the C16 theorems are restated for the translated code.
-/
import Mathy.Proofs.PySrcAgreeLike
import Mathy.Props.C16Equiv
namespace Mathy
open Mathy.Gen

/-- **Source tie, `terms_are_like`** on two results of `get_term` that are not `False` -/
theorem Src_terms_are_like (a b : TermKey) : Src.terms_are_like (some a) (some b) = termsAreLike a b := by
  obtain ⟨va, ea⟩ := a
  obtain ⟨vb, eb⟩ := b
  -- test by test the model's conjunction; the `cases` settle `length == 0` against `isEmpty`
  cases va <;> cases vb <;> simp [Src.terms_are_like, termsAreLike, Bool.and_assoc, beq_eq_decide]

/-- an operand `get_term` rejected (Python's `False`) is like nothing -/
theorem Src_terms_are_like_false (o : Option TermKey) :
    Src.terms_are_like none o = false ∧ Src.terms_are_like o none = false := by
  cases o <;> simp [Src.terms_are_like]

/-- **Source tie, `get_terms`**: the in-order walk whose closure appends the non-sum operands of every sum node -/
theorem Src_get_terms (e : Ex) : Src.get_terms e = getTerms e := by
  unfold Src.get_terms getTerms
  simp only [SrcAgree.get_terms_visit_eq]
  cases h : ((if e.isOp .mul then [e] else []) ++ sumChildren e) <;> simp

/-- **Source tie, `has_like_terms`**: its two loops are `hasDup` and the count of constants under `+` / `-` -/
theorem Src_has_like_terms (e : Ex) : Src.has_like_terms e = hasLikeTerms e := by
  have h1 : (Src.has_like_terms_loop1 [] ((getTerms e).map getTermKey)).isNone
      = hasDup ((getTerms e).filterMap getTermKey) := by
    rw [SrcAgree.hasLike_scan_spec, List.any_nil, Bool.false_or, List.filterMap_map, Function.id_comp]
  have h2 : Src.has_like_terms_loop2 false (Src.const_parent_flags false e) = decide (2 ≤ countFreeConsts e) := by
    rw [SrcAgree.hasLike_marker_spec, SrcAgree.flags_count]
    simp only [Bool.and_false, Bool.false_eq_true, if_false, Nat.add_zero]
  unfold Src.has_like_terms hasLikeTerms
  rw [Src_get_terms, h2, ← h1]
  cases Src.has_like_terms_loop1 [] ((getTerms e).map getTermKey) <;> rfl

/-- `C16_hasLike_order_invariant` for the translated code -/
theorem Src_has_like_terms_order_invariant (t t' : Ex) (h : SumPerm t t') :
    Src.has_like_terms t = Src.has_like_terms t' := by
  rw [Src_has_like_terms, Src_has_like_terms, C16_hasLike_order_invariant t t' h]

/-- `C16_termsAreLike_refl`, `_symm` and `_trans` for the translated code -/
theorem Src_terms_are_like_equiv (a b c : TermKey) :
    Src.terms_are_like (some a) (some a) = true ∧
    Src.terms_are_like (some a) (some b) = Src.terms_are_like (some b) (some a) ∧
    (Src.terms_are_like (some a) (some b) = true → Src.terms_are_like (some b) (some c) = true →
      Src.terms_are_like (some a) (some c) = true) := by
  simp only [Src_terms_are_like]
  exact ⟨C16_termsAreLike_refl a, C16_termsAreLike_symm a b, C16_termsAreLike_trans a b c⟩

/-- **Source tie, `make_term`**: its chain of constructors (a coefficient 1 and an absent exponent are left out) is the model's `match` -/
theorem Src_make_term (c : Rat) (v : Option Char) (e : Option Rat) : Src.make_term c v e = makeTerm c v e := by
  unfold Src.make_term makeTerm
  cases v <;> cases e <;> by_cases hc : c = 1 <;> simp [hc]

/-- `C16_makeTerm_roundtrip` and `C16_makeTerm_value` for the translated `make_term` (`getTermEx` is the
translated `get_term_ex` by `Src_get_term_ex`) -/
theorem Src_make_term_roundtrip (c : Rat) (v : Char) (e : Option Rat) (m : Ex)
    (h : Src.make_term c (some v) e = some m) :
    getTermEx false m = some ⟨if c = 1 then none else some c, some v, e⟩ ∧
    ∀ env : Env, eval env m = (TermEx.mk (some c) (some v) e).res env := by
  rw [Src_make_term] at h
  exact ⟨C16_makeTerm_roundtrip c v e m h, fun env => C16_makeTerm_value c (some v) e m env h⟩

/-- `C16_hasLike_iff` for the translated code -/
theorem Src_has_like_terms_iff (e : Ex) :
    Src.has_like_terms e = true ↔
      (∃ i j : Nat, ∃ k : TermKey, i < j ∧
          ((Src.get_terms e).filterMap getTermKey)[i]? = some k ∧
          ((Src.get_terms e).filterMap getTermKey)[j]? = some k) ∨ 2 ≤ countFreeConsts e := by
  rw [Src_has_like_terms, Src_get_terms]
  exact C16_hasLike_iff e

end Mathy
