/-
Property C06 — a rule that reports it applies can be applied; node search is exact.

(Clause (2), "the applicability check writes nothing", is about mutation of Python objects and cannot
be stated about a pure function: it is established by object-graph snapshots in the
correspondence check, see DESIGN.md.)
-/
import Mathy.Proofs.Total
namespace Mathy

/-- `apply` completed: a tree, or (constant arithmetic only) a folded constant that is NaN/inf or
outside the rational domain — Python's `apply_to` returns a change in all these cases. -/
def Completed (x : Except RErr (Ctx × Ex)) : Prop :=
  (∃ res, x = .ok res) ∨ x = .error .nonFinite ∨ x = .error .outOfDomain

/-- **C06 (1).** If the classifier says applicable, `apply` never hits an assertion
(`notApplicable`, `internal`). -/
theorem C06_applicable_implies_appliable (r : Rule) (k : Ctx) (n : Ex)
    (hc : canApply r k n = true) : Completed (applyRule r k n) := by
  by_cases hr : r = .constants
  · subst hr
    exact caApply_completed hc
  · exact Or.inl (applyRule_total hr hc)

/-- outside constant arithmetic the result is always a tree -/
theorem C06_applicable_implies_tree (r : Rule) (hr : r ≠ .constants) (k : Ctx) (n : Ex)
    (hc : canApply r k n = true) : ∃ res, applyRule r k n = .ok res :=
  applyRule_total hr hc

/-- **C06 (3).** `find_nodes` returns exactly the in-order positions at which the rule is
applicable … -/
theorem C06_findNodes_exact (r : Rule) (t : Ex) (i : Nat) :
    i ∈ findNodes r t ↔ ∃ k n, focusAt t i = some (k, n) ∧ canApply r k n = true :=
  mem_findNodes

/-- … in increasing in-order position, without repetition … -/
theorem C06_findNodes_sorted (r : Rule) (t : Ex) : (findNodes r t).Pairwise (· < ·) := by
  unfold findNodes
  -- a sublist of the positions of all focuses, which are `0, 1, …`
  refine List.Pairwise.sublist (List.filter_sublist.map _) ?_
  rw [List.zipIdx_map_snd]
  exact List.pairwise_lt_range'

/-- … and `find_node` is the first of them. -/
theorem C06_findNode_first (r : Rule) (t : Ex) : findNode r t = (findNodes r t).head? := rfl

end Mathy
