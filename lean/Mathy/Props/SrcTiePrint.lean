/-
Source tie for the printer (see Props/SrcTie.lean for what "translated from the live source" means).
`ctxParent` is defined in Proofs/PySrcAgreePrint.lean.
-/
import Mathy.Proofs.PySrcAgreePrint
namespace Mathy
open Mathy.Py Mathy.Gen.Src Mathy.SrcAgree

/-- **Source tie, printer (C04).** The parenthesisation decisions of the model's printer are the
Python predicates as translated from the live source. -/
theorem Src_printer (k : Ctx) (e : Ex) :
    is_compact_product (some ⟨k, e⟩) = isCompactProduct e ∧
    power_base_needs_parens (some ⟨k, e⟩) = powerBaseNeedsParens e ∧
    negate_needs_parens (some ⟨k, e⟩) = negateNeedsParens e ∧
    (∀ t o l r, e = .bin t o l r →
      BinaryExpression_get_priority (some ⟨k, e⟩) = o.priority ∧
      BinaryExpression_self_parens (some ⟨k, e⟩) = selfParens o (ctxParent k)) := by
  refine ⟨is_compact_product_agree k e, power_base_needs_parens_agree k e, negate_needs_parens_agree k e, ?_⟩
  rintro t o l r rfl
  exact ⟨get_priority_agree k t o l r, self_parens_agree k t o l r⟩

end Mathy
