/-
Property C13 — cloning yields an identical, independent tree and locates the cloned node.
Functional level: `Ex.clone` (Model/Expr.lean) keeps shape, kinds, constant values, variable names and
operand sides and gives every node a new identity (tag 0 = "object created by this operation").
Independence is a property of the object graph: trees that share no node object cannot influence each
other through `left/right/parent/value/identifier`, the only state the tree API writes; that no object
is shared is `C13_clone_fresh`.  The `id` strings and the `child_on_left` flag, which the functional
model does not carry, are compared with the real code by the correspondence run.
-/
import Mathy.Proofs.ExLemmas
import Mathy.Proofs.PrintLemmas
namespace Mathy

/-- same shape, kinds, values, names, sides -/
theorem C13_clone_same_structure (e : Ex) : e.clone.erase = e.erase := by
  induction e with
  | const t v => rfl
  | var t x => rfl
  | un t o c ih => simp [Ex.clone, Ex.erase, ih]
  | bin t o l r ihl ihr => simp [Ex.clone, Ex.erase, ihl, ihr]

/-- shares no node object with the original: every identity in the clone is new -/
theorem C13_clone_fresh (e : Ex) : ∀ x ∈ e.clone.tags, x = 0 :=
  tags_clone e

theorem C13_clone_evaluates (env : Env) (e : Ex) : eval env e.clone = eval env e := eval_clone env e

/-- printing ignores identities, so a clone prints identically -/
theorem C13_clone_prints (nt : Rat → List Char) (e : Ex) : printRoot nt e.clone = printRoot nt e := by
  rw [printRoot, Ex.clone_eq_erase, printToks_erase, printRoot]

/-- **clone_from_root**: cloning the whole tree through the node at in-order position `i` yields
the copy of that same node, at the same position, inside a complete copy of the whole tree -/
theorem C13_clone_from_root (t : Ex) (i : Nat) (k : Ctx) (n : Ex) (h : focusAt t i = some (k, n)) :
    focusAt t.clone i = some (k.map Frame.clone, n.clone) ∧ plug (k.map Frame.clone) n.clone = t.clone := by
  constructor
  · rw [focusAt, focuses] at h ⊢
    -- `show`: `[]` is `[].map Frame.clone` by computation only
    rw [show focusesAux [] t.clone = _ from focusesAux_clone [] t, List.getElem?_map, h]
    rfl
  · rw [← clone_plug, focusAt_plug h]

end Mathy
