/-
Source tie for tree.py: the two link queries the rule classifiers use, translated from the live source
(`Gen/PySrcTree.lean`, by `harness/py2lean.py`).  The translated classifiers call them as `Ref.get_root` /
`Ref.get_sibling` of the run-time library (`Model/PyRt.lean`); `Proofs/PySrcAgreeTree.lean` proves that
those are what the translated methods compute.
-/
import Mathy.Proofs.PySrcAgreeTree
namespace Mathy
open Mathy.Py Mathy.Gen.Src Mathy.SrcAgree

/-- **Source tie, link queries (C14).** `BinaryTreeNode.get_root` and `get_sibling` as translated from
the live source: the root is the node reached by following `parent`, the sibling is the other child of
the parent (`none` for the root and for the operand of a unary node). -/
theorem Src_tree_links (k : Ctx) (e : Ex) :
    BinaryTreeNode_get_root (some ⟨k, e⟩) = some ⟨[], plug k e⟩ ∧
    BinaryTreeNode_get_sibling (some ⟨k, e⟩) =
      (match k with
       | .binL t o r :: k' => some ⟨.binR t o e :: k', r⟩
       | .binR t o l :: k' => some ⟨.binL t o e :: k', l⟩
       | _ => none) := by
  refine ⟨get_root_agree _, ?_⟩
  rw [get_sibling_agree]
  cases k with
  | nil => rfl
  | cons f k' => cases f <;> rfl

end Mathy
