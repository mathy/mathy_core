/-
Property C06 ⇄ C14: the positions `find_nodes` records are positions of `visit_inorder`.
The focuses the rule search enumerates are exactly the callbacks of the in-order traversal of the
expression's shape as a binary tree (`Ex.toBT`, Proofs/ExBT.lean), with the same depths.
-/
import Mathy.Proofs.ExBT
import Mathy.Proofs.Traversal
namespace Mathy

/-- **node search order = in-order traversal**: the i-th focus is the i-th callback of
`visit_inorder` (node identity and depth) -/
theorem C06_focuses_are_inorder (t : Ex) :
    (focuses t).map (fun p => (p.2.tag, p.1.length)) = t.toBT.inorder 0 :=
  focusesAux_inorder [] t

/-- and (C14) those are the callbacks `visit_inorder` makes when never stopped -/
theorem C06_focuses_are_visit_inorder (t : Ex) :
    (focuses t).map (fun p => (p.2.tag, p.1.length)) = (t.toBT.visitIn (fun _ _ => false) 0).1 := by
  rw [C06_focuses_are_inorder, visitIn_never]

end Mathy
