/-
Source tie for the printer's string building (C04), and the print/parse round trip stated for the
TRANSLATED printer, tokenizer and parser together.
`ctxParent`: Proofs/PySrcAgreePrint.lean; `PrintableL`, `NumOk`: Proofs/PrintParse.lean; `CharsOk`: Props/C04Str.lean.
-/
import Mathy.Proofs.PySrcAgreeStr
import Mathy.Props.SrcTieParse
import Mathy.Props.C04Str
namespace Mathy
open Mathy.Py Mathy.Gen.Src Mathy.SrcAgree

/-- **Source tie, printer (C04).** `str(node)` as translated from the live `__str__` methods (template-checked,
names read from the source, colouring off, number formatting abstract) is the model's `strChars`, for
every node of every tree — at the root and inside any context. -/
theorem Src_str (nt : Rat → List Char) (e : Ex) (k : Ctx) :
    MathExpression_str nt (e.size + 1) (some ⟨k, e⟩) = strChars nt (ctxParent k) e :=
  str_agree nt e k (e.size + 1) (Nat.lt_succ_self _)

/-- **(C04) the round trip for the translated code end to end**: `C04_print_parse_text` with the
translated `__str__`, tokenizer and parser in place of the model's, from any parser state. -/
theorem Src_print_parse_roundtrip (nt : Rat → List Char) (st : ParserState) (e : Ex) (hp : PrintableL e = true)
    (hn : NumOk nt e) (hc : CharsOk nt e) :
    ∃ e', srcParseText st (MathExpression_str nt (e.size + 1) (some ⟨[], e⟩)) = .ok e' ∧ EvalEq e e' ∧
      (∀ c, c ∈ e'.vars ↔ c ∈ e.vars) := by
  obtain ⟨e', hparse, hev, hv⟩ := C04_print_parse_text nt e hp hn hc
  refine ⟨e', ?_, hev, hv⟩
  rw [Src_str, Src_parse]
  show outcomeOf _ (parseText (strChars nt none e)) = .ok e'
  rw [hparse]; rfl

end Mathy
