/-
Property C17 — generated problems are always valid and contain what they promise.
Model: `Model/Problems.lean` — the helpers as functions of explicit draws and the token SHAPES of
the generated texts.  That each real generator only emits instances of its shape, and its
complexity value, are checked on every generated text of the run (partial: see theorems.json).
-/
import Mathy.Model.Problems
import Mathy.Proofs.ProblemLemmas
import Mathy.Proofs.ParserComplete
namespace Mathy

/-- requested variable sets are distinct, of the requested size, inside the alphabet and respect
the exclusions (given what `random.sample` guarantees about its picks) -/
theorem C17_getRandVars (pool exclude : List Char) (n : Nat) (picks : List Nat) (vs : List Char)
    (hpool : pool.Nodup) (hp : picks.Nodup) (hl : picks.length = n)
    (hr : ∀ i ∈ picks, i < (pool.filter (fun v => !exclude.contains v)).length)
    (h : getRandVars pool exclude n picks = some vs) :
    vs.Nodup ∧ vs.length = n ∧ ∀ v ∈ vs, v ∈ pool ∧ v ∉ exclude := by
  unfold getRandVars at h
  generalize hav : pool.filter (fun v => !exclude.contains v) = av at h hr
  have havn : av.Nodup := hav ▸ hpool.filter _
  simp only at h
  split at h
  · cases h
  split at h
  · cases h
  cases h
  refine ⟨?_, ?_, fun v hv => ?_⟩
  · refine List.Pairwise.filterMap (S := (· ≠ ·)) _ (fun i j hne v hi w hj hvw => hne ?_) hp
    subst hvw
    exact (List.getElem?_inj (List.getElem?_eq_some_iff.1 hi).1 havn).1 (hi.trans hj.symm)
  · rw [← hl, List.length_filterMap_eq_countP, List.countP_eq_length.2 fun i hi => by simp [hr i hi]]
  · obtain ⟨i, -, hi⟩ := List.mem_filterMap.1 hv
    have := List.mem_of_getElem? hi
    rw [← hav, List.mem_filter] at this
    exact ⟨this.1, by simpa using this.2⟩

/-- a satisfiable request never fails -/
theorem C17_getRandVars_satisfiable (pool exclude : List Char) (n : Nat) (picks : List Nat)
    (h25 : n ≤ 25) (hn : n ≤ (pool.filter (fun v => !exclude.contains v)).length) :
    (getRandVars pool exclude n picks).isSome = true := by
  unfold getRandVars
  simp only
  rw [if_neg (by omega), if_neg (by omega)]
  rfl

/-- random two-way splits sum to their input, lower part first -/
theorem C17_split (value : Nat) (factor : Rat) (h0 : 0 ≤ factor) (h1 : factor ≤ 1) :
    (splitInTwo value factor).1 + (splitInTwo value factor).2 = value ∧
    (splitInTwo value factor).1 ≤ (splitInTwo value factor).2 := by
  have _ := h0  -- not needed: `toNat` sends a negative floor to 0, and the split is `(0, value)`
  have hle : (factor * value).floor ≤ (value : Int) := by
    have h2 : factor * (value : Rat) ≤ ((value : Int) : Rat) := by
      have hv : (0 : Rat) ≤ (value : Rat) := by exact_mod_cast Nat.zero_le value
      have := Rat.mul_le_mul_of_nonneg_right h1 hv
      rw [Rat.intCast_natCast]
      simpa using this
    have := Rat.floor_monotone h2
    rwa [Rat.floor_intCast] at this
  have hl : (factor * value).floor.toNat ≤ value := by omega
  unfold splitInTwo
  simp only
  omega

/-- every well-formed flat problem text (terms / numbers joined by `+ - *`, optional
parenthesised group) is accepted by the parser -/
theorem C17_flat_parses (p : FlatProblem) (h : p.ok = true) :
    ∃ e, parseToks (p.toks ++ [eofTok]) = .ok e := by
  obtain ⟨e, he, _⟩ := Prob.flat_derivation p h
  exact ⟨e, parse_der (k := 5) he⟩

/-- the texts `(a + b)(c + d)` and `(a + b) * c` of the two binomial generators are accepted too -/
theorem C17_binomial_parses (p : BinomialProblem) (h : p.ok = true) :
    ∃ e, parseToks (p.toks ++ [eofTok]) = .ok e := by
  obtain ⟨e, he⟩ := Prob.binomial_derivation p h
  exact ⟨e, parse_der (k := 5) he⟩

/-- a sum that contains two terms with the same variable and power really has like terms -/
theorem C17_like_promise (p : FlatProblem) (h : p.ok = true) (hl : p.promisesLike = true) (e : Ex)
    (he : parseToks (p.toks ++ [eofTok]) = .ok e) : hasLikeTerms e = true := by
  obtain ⟨e', hd, hitems⟩ := Prob.flat_derivation p h
  rw [parse_der (k := 5) hd] at he
  obtain rfl : e' = e := Except.ok.inj he
  exact Prob.flat_like p hl e' (hitems ((Prob.promisesLike_iff p).1 hl).1)

/-! non-vacuity: `4y + (24x + 12x) + -3.5j^2` is a well-formed problem that promises like terms -/
example : (FlatProblem.mk
    (.term (some ⟨false, ['4']⟩) 'y' none)
    [(.plus, .term (some ⟨false, "24".toList⟩) 'x' none), (.plus, .term (some ⟨false, "12".toList⟩) 'x' none),
     (.plus, .term (some ⟨true, "3.5".toList⟩) 'j' (some ['2']))]
    (some (1, 2))).ok = true ∧
  (FlatProblem.mk
    (.term (some ⟨false, ['4']⟩) 'y' none)
    [(.plus, .term (some ⟨false, "24".toList⟩) 'x' none), (.plus, .term (some ⟨false, "12".toList⟩) 'x' none),
     (.plus, .term (some ⟨true, "3.5".toList⟩) 'j' (some ['2']))]
    (some (1, 2))).promisesLike = true := by decide +kernel

end Mathy
