/-
Source tie for the caching front of the parser object (`ExpressionParser.__init__ / clear_cache / tokenize /
parse`, template-checked translation in Gen/PySrcParse.lean).  Apart from Props/SrcTieParse.lean so that a
change to the caches alone touches only the obligations of the properties about call histories.
`COp`, `CAns`, `crun`: `Proofs/PySrcAgreeCache.lean`; `outcomeOf`: `Proofs/PySrcAgreeParse5.lean`.
-/
import Mathy.Proofs.PySrcAgreeCache
namespace Mathy
open Mathy.Py Mathy.Gen.Src Mathy.SrcAgree

/-- **(C12 / C10 "no sticky state") history independence of the translated parser object.**  For EVERY
history of calls on one long-lived parser, with the parsing fields `tokens` / `current_token` replaced by an
arbitrary state before each call (whatever a failed parse left behind), every answer is the answer a fresh
parser gives: a parse returns the model's `parseText` outcome, a tokenize the fresh token list / the same
ValueError — failing inputs, repeated inputs and cache clears included. -/
theorem Src_history_independent (hist : List (ParserState × COp)) :
    crun ExpressionParser_init hist = hist.map (fun p => match p.2 with
      | .parse s => .tree (outcomeOf s (parseText s))
      | .tokenize s => .toks (Tokenizer_tokenize true s)
      | .clear => .unit) :=
  crun_fresh hist ExpressionParser_init inv_init

/-- the form of `C10_no_sticky_state` -/
theorem Src_parse_after_any_history (hist : List (ParserState × COp)) (st : ParserState) (s : List Char) :
    (crun ExpressionParser_init (hist ++ [(st, .parse s)])).getLast? = some (.tree (outcomeOf s (parseText s))) := by
  rw [Src_history_independent]; simp

end Mathy
