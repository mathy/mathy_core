/-
Property C07 — rewritten trees are structurally sound and leave the context intact.

Trees carry object identities (`tag`, 0 = created by the rewrite).  "No node object occurs twice"
is: every non-zero tag occurs at most once.  Arity/link consistency is by typing of `Ex`; the
pointer-level statements for the primitives are `C07_heap_attach` / `C07_heap_construct`
(`Props/C07Heap.lean`), `C15_heap_rotate` (`Props/C15.lean`) and `C13_heap_clone` (`Props/C13Heap.lean`).
-/
import Mathy.Proofs.Struct
namespace Mathy

/-- every original object occurs at most once -/
def TagsOk (t : Ex) : Prop := ∀ x, x ≠ 0 → t.tags.count x ≤ 1

/-- **C07 (1).** No original object is used twice by a rewrite: each identity occurs in the
result at most as often as in the input. -/
theorem C07_no_object_duplicated (r : Rule) (k k' : Ctx) (n n' : Ex)
    (h : applyRule r k n = .ok (k', n')) (x : Nat) (hx : x ≠ 0) :
    (plug k' n').tags.count x ≤ (plug k n).tags.count x := by
  obtain ⟨kd, rfl, hl⟩ := applyRule_localOk h
  rw [plug_append]
  exact (hl.plug k').tags x hx

theorem C07_tags_ok (r : Rule) (k k' : Ctx) (n n' : Ex)
    (h : applyRule r k n = .ok (k', n')) (ht : TagsOk (plug k n)) : TagsOk (plug k' n') :=
  fun x hx => Nat.le_trans (C07_no_object_duplicated r k k' n n' h x hx) (ht x hx)

/-- **C07 (2).** Everything outside the rewritten node's neighbourhood is untouched: for all
rules but associative swap and balanced move the context (all frames: sibling subtrees, their
order, their identities) is returned unchanged; associative swap consumes exactly the parent
frame; balanced move returns a complete fresh copy (all identities 0). -/
theorem C07_context_untouched (r : Rule) (k k' : Ctx) (n n' : Ex)
    (h : applyRule r k n = .ok (k', n')) :
    (r ≠ .associative ∧ r ≠ .balancedMove → k' = k) ∧
    (r = .associative → k' = k.tail) ∧
    (r = .balancedMove → k' = [] ∧ ∀ x, x ≠ 0 → n'.tags.count x = 0) := by
  cases r with
  | associative => cases asApply_inv h <;> simp
  | commutative p => obtain ⟨rfl, -⟩ := csApply_inv h; simp
  | constants => obtain ⟨rfl, -⟩ := caApply_inv h; simp
  | factorOut c => obtain ⟨rfl, -⟩ := dfApply_inv h; simp
  | distribute => obtain ⟨rfl, -⟩ := dmApply_inv h; simp
  | inverse => obtain ⟨rfl, -⟩ := miApply_inv h; simp
  | restate => obtain ⟨rfl, -⟩ := rsApply_inv h; simp
  | variableMultiply => obtain ⟨rfl, -⟩ := vmApply_inv h; simp
  | balancedMove =>
    obtain ⟨rfl, ht, -⟩ := bmApply_struct h
    exact ⟨fun hne => absurd rfl hne.2, fun hne => by simp at hne, fun _ => ⟨rfl, ht⟩⟩

/-- **C07 (3).** The set of variables is unchanged.  (`hc` is not used: every successful
`applyRule` keeps the variables, applicable or not.) -/
theorem C07_same_variables (r : Rule) (k k' : Ctx) (n n' : Ex)
    (hc : canApply r k n = true) (h : applyRule r k n = .ok (k', n')) (c : Char) :
    c ∈ (plug k' n').vars ↔ c ∈ (plug k n).vars := by
  obtain ⟨kd, rfl, hl⟩ := applyRule_localOk h
  rw [plug_append]
  exact (hl.plug k').vars c

end Mathy
