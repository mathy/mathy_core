/-
Property C05 / C01 bridge: wherever the typed evaluator `pyEval` (Python's int/float/NaN
semantics, floats idealised) returns a number, the rational semantics `eval` that the rewrite
theorems (C01, C02, C09) are stated in returns the same number.
-/
import Mathy.Proofs.PyEvalLemmas
namespace Mathy

/-- forget the int/float typing of literals -/
def PEx.toEx : PEx → Ex
  | .cint z => .const 0 z
  | .cflt q => .const 0 q
  | .var x => .var 0 x
  | .un o c => .un 0 o c.toEx
  | .bin o l r => .bin 0 o l.toEx r.toEx

def envAgree (penv : PyEnv) (env : Env) : Prop :=
  ∀ x, ∃ v, penv x = some v ∧ v.toRat? = some (env x)

def numeric (penv : PyEnv) (t : PEx) : Prop := ∃ v q, pyEval penv t = .ok v ∧ v.toRat? = some q

/-- every sub-expression evaluates to a number: no NaN arises on the way (Python lets NaN through
`sgn` and `nan ** 0`, where mathematics has no value) -/
def AllNumeric (penv : PyEnv) : PEx → Prop
  | .un o c => AllNumeric penv c ∧ numeric penv (.un o c)
  | .bin o l r => AllNumeric penv l ∧ AllNumeric penv r ∧ numeric penv (.bin o l r)
  | t => numeric penv t

theorem AllNumeric.numeric {penv : PyEnv} {t : PEx} (h : AllNumeric penv t) : numeric penv t := by
  cases t with
  | cint | cflt | var => exact h
  | un o c => exact h.2
  | bin o l r => exact h.2.2

theorem C05_agrees_with_rational_semantics (penv : PyEnv) (env : Env) (h : envAgree penv env)
    (t : PEx) (hall : AllNumeric penv t) (v : PyVal) (q : Rat)
    (hv : pyEval penv t = .ok v) (hq : v.toRat? = some q) : eval env t.toEx = .ok q := by
  induction t generalizing v q with
  | cint | cflt =>
    simp only [pyEval] at hv
    cases hv
    cases hq
    rfl
  | var x =>
    obtain ⟨w, hw, hwq⟩ := h x
    simp only [pyEval, hw] at hv
    cases hv
    rw [hwq] at hq
    cases hq
    rfl
  | un o c ih =>
    obtain ⟨hc, -⟩ := hall
    obtain ⟨a, qa, hca, hqa⟩ := hc.numeric
    have hec := ih hc a qa hca hqa
    rw [pyEval_un, hca] at hv
    simp only [PEx.toEx, eval, hec, Res.un]
    exact pyUn_agree o a v qa q hqa hv hq
  | bin o l r ihl ihr =>
    obtain ⟨hl, hr, -⟩ := hall
    obtain ⟨a, qa, hla, hqa⟩ := hl.numeric
    obtain ⟨b, qb, hrb, hqb⟩ := hr.numeric
    have hel := ihl hl a qa hla hqa
    have her := ihr hr b qb hrb hqb
    rw [pyEval_bin, hla, hrb] at hv
    simp only [PEx.toEx, eval, hel, her, Res.bin]
    exact pyBin_agree o a b v qa qb q hqa hqb hv hq

end Mathy
