/-
C14 (look-ups): `find_id`, `find_type` and `to_list("inorder")` agree with the in-order traversal of the
RECEIVER — for every shape (any node of a larger tree is itself a `BT`, so the statements cover
look-ups asked of a non-root node: they range over that node's own sub-tree only).
-/
import Mathy.Props.C14

namespace Mathy
open BT

/-- `to_list("inorder")` is the in-order sequence of the receiver (the default order of `to_list`,
pre-order, is not modelled). -/
theorem C14_to_list (t : BT) : t.toList = t.ids := by
  unfold BT.toList
  rw [visitIn_never, inorder_map_fst]

/-- `find_type` returns exactly the nodes of the receiver satisfying the class test, in in-order. -/
theorem C14_find_type (p : Nat → Bool) (t : BT) : t.findAll p = t.ids.filter p := by
  unfold BT.findAll
  rw [visitIn_never, ← inorder_map_fst 0 t, List.filter_map]
  rfl

/-- `find_id` returns the FIRST node in the receiver's in-order sequence carrying that id, with
its true depth below the receiver. -/
theorem C14_find_id (i : Nat) (t : BT) :
    t.findId i = (t.inorder 0).find? (fun x => x.1 == i) := by
  rw [← visitIn_first (· == i) t, ← lastOf_eq_getLast?]
  -- this is `findId` with projections for its destructuring `let`
  rfl

/-- `find_id` finds a node iff the id occurs in the receiver's own sub-tree (an id that only
occurs elsewhere in the enclosing tree is not found). -/
theorem C14_find_id_none_iff (i : Nat) (t : BT) : t.findId i = none ↔ i ∉ t.ids := by
  rw [C14_find_id, ← inorder_map_fst 0 t, List.find?_eq_none]
  simp only [List.mem_map, beq_iff_eq, not_exists, not_and]

/-- the in-order position of the node found is the first position carrying the id -/
theorem C14_find_id_index (i : Nat) (t : BT) :
    t.findIdIndex i = (if i ∈ t.ids then some (t.ids.idxOf i) else none) := by
  have hmem : ((t.inorder 0).any (fun x => x.1 == i) = true) ↔ i ∈ t.ids := by
    rw [← inorder_map_fst 0 t]
    simp only [List.any_eq_true, List.mem_map, beq_iff_eq]
  obtain ⟨h1, h2⟩ := C14_visitIn (fun j _ => j == i) 0 t
  -- `findIdIndex` with projections for its destructuring `let`, under which `rw` finds nothing
  rw [show t.findIdIndex i = if (t.visitIn (fun j _ => j == i) 0).2 = true
      then some ((t.visitIn (fun j _ => j == i) 0).1.length - 1) else none from rfl, h1, h2]
  by_cases ha : (t.inorder 0).any (fun x => x.1 == i) = true
  · rw [if_pos ha, if_pos (hmem.1 ha), takeThrough_length_idxOf i _ ha, inorder_map_fst]
  · rw [if_neg ha, if_neg (mt hmem.2 ha)]

/-- non-vacuity: duplicate ids, first in-order wins; and a miss -/
example : (BT.node 1 (.node 2 .nil .nil) (.node 2 .nil .nil)).findId 2 = some (2, 1) := by decide
example : (BT.node 1 (.node 2 .nil .nil) (.node 2 .nil .nil)).findIdIndex 2 = some 0 := by decide
example : (BT.node 1 (.node 2 .nil .nil) .nil).findId 7 = none := by decide

end Mathy
