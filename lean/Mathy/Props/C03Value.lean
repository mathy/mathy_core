/-
Property C03, order of operations of `*` and `/`: the parser groups a chain
`e₀ op₁ e₁ op₂ e₂ …` as the implementation does (`G.MultLoop`: quotients to the left, a `*`
takes the whole rest as its right operand), the documentation prescribes left to right.  Both
readings of every chain have the same value at every assignment (failures included).
-/
import Mathy.Spec.Grammar
import Mathy.Proofs.Eval
namespace Mathy
namespace G

/-- the documented reading: `(MultExp) = (ExpExp) { ("*" | "/") (ExpExp) }*`, left to right -/
inductive MultLoopLR : Ex → List Tok → Ex → Prop
  | done (acc : Ex) : MultLoopLR acc [] acc
  | div (d : Tok) (hd : d.type = .divide) {acc r e : Ex} {ts ts' : List Tok} :
      ExpE ts r → MultLoopLR (.bin 0 .div acc r) ts' e → MultLoopLR acc (d :: ts ++ ts') e
  | mul (m : Tok) (hm : m.type = .multiply) {acc r e : Ex} {ts ts' : List Tok} :
      ExpE ts r → MultLoopLR (.bin 0 .mul acc r) ts' e → MultLoopLR acc (m :: ts ++ ts') e

inductive MultELR : List Tok → Ex → Prop
  | mk {ts ts' : List Tok} {e0 e : Ex} : ExpE ts e0 → MultLoopLR e0 ts' e → MultELR (ts ++ ts') e

end G

theorem res_mul_assoc (X Y Z : Res) :
    Res.bin .mul X (Res.bin .mul Y Z) = Res.bin .mul (Res.bin .mul X Y) Z :=
  (res_assoc (.inr rfl) X Y Z).symm

theorem EvalEq.symm' {a b : Ex} (h : EvalEq a b) : EvalEq b a := fun env => (h env).symm

/-- push a left factor INTO a left-to-right chain -/
theorem multLoopLR_push {b : Ex} {us : List Tok} {e₁ : Ex} (h : G.MultLoopLR b us e₁) :
    ∀ a b' : Ex, EvalEq (.bin 0 .mul a b) b' →
      ∃ e₂, G.MultLoopLR b' us e₂ ∧ EvalEq (.bin 0 .mul a e₁) e₂ := by
  induction h with
  | done acc => intro a b' hb; exact ⟨b', .done b', hb⟩
  | @div d hd acc r e ts ts' hr _ ih =>
      intro a b' hb
      obtain ⟨e₂, h₂, he⟩ := ih a (.bin 0 .div b' r)
        ((evalEq_mul_div_assoc a acc r).trans (EvalEq.bin 0 0 .div hb (EvalEq.refl r)))
      exact ⟨e₂, .div d hd hr h₂, he⟩
  | @mul m hm acc r e ts ts' hr _ ih =>
      intro a b' hb
      obtain ⟨e₂, h₂, he⟩ := ih a (.bin 0 .mul b' r)
        ((evalEq_mul_assoc a acc r).trans (EvalEq.bin 0 0 .mul hb (EvalEq.refl r)))
      exact ⟨e₂, .mul m hm hr h₂, he⟩

/-- pull a left factor OUT of a left-to-right chain, producing the parser's grouping -/
theorem multLoopLR_pull {b' : Ex} {us : List Tok} {e' : Ex} (h : G.MultLoopLR b' us e') :
    ∀ a b : Ex, EvalEq (.bin 0 .mul a b) b' →
      ∃ R, G.MultLoop b us R ∧ EvalEq (.bin 0 .mul a R) e' := by
  induction h with
  | done acc => intro a b hb; exact ⟨b, .done b, hb⟩
  | @div d hd acc r e ts ts' hr _ ih =>
      intro a b hb
      obtain ⟨R, hR, he⟩ := ih a (.bin 0 .div b r)
        ((evalEq_mul_div_assoc a b r).trans (EvalEq.bin 0 0 .div hb (EvalEq.refl r)))
      exact ⟨R, .div d hd hr hR, he⟩
  | @mul m hm acc r e ts ts' hr _ ih =>
      intro a b hb
      obtain ⟨R, hR, he⟩ := ih (.bin 0 .mul a b) r (EvalEq.bin 0 0 .mul hb (EvalEq.refl r))
      exact ⟨.bin 0 .mul b R, .mul m hm (.mk hr hR), (evalEq_mul_assoc a b R).trans he⟩

/-- a `*` case descends into the `MultE` it holds -/
theorem multLoop_to_LR : ∀ {acc ts e}, G.MultLoop acc ts e → ∀ acc', EvalEq acc acc' →
    ∃ e', G.MultLoopLR acc' ts e' ∧ EvalEq e e'
  | _, _, _, .done _, acc', hacc => ⟨acc', .done acc', hacc⟩
  | _, _, _, .div d hd (r := r) hr hl, acc', hacc =>
    let ⟨e', h', he⟩ := multLoop_to_LR hl (.bin 0 .div acc' r) (.bin 0 0 .div hacc (.refl r))
    ⟨e', .div d hd hr h', he⟩
  | _, _, _, .mul m hm (.mk (e0 := r0) h0 hl), acc', hacc =>
    let ⟨_, h₁, he₁⟩ := multLoop_to_LR hl r0 (.refl r0)
    let ⟨e₂, h₂, he₂⟩ := multLoopLR_push h₁ acc' (.bin 0 .mul acc' r0) (.refl _)
    ⟨e₂, .mul m hm h0 h₂, (EvalEq.bin 0 0 .mul hacc he₁).trans he₂⟩

theorem multLoopLR_to_code {acc' : Ex} {ts : List Tok} {e' : Ex} (h : G.MultLoopLR acc' ts e') :
    ∀ acc, EvalEq acc acc' → ∃ e, G.MultLoop acc ts e ∧ EvalEq e e' := by
  induction h with
  | done acc' => intro acc hacc; exact ⟨acc, .done acc, hacc⟩
  | @div d hd acc' r e ts ts' hr _ ih =>
      intro acc hacc
      obtain ⟨e₁, h₁, he⟩ := ih (.bin 0 .div acc r) (EvalEq.bin 0 0 .div hacc (EvalEq.refl r))
      exact ⟨e₁, .div d hd hr h₁, he⟩
  | @mul m hm acc' r e ts ts' hr hl _ =>
      intro acc hacc
      obtain ⟨R, hR, he⟩ := multLoopLR_pull hl acc r (EvalEq.bin 0 0 .mul hacc (EvalEq.refl r))
      exact ⟨.bin 0 .mul acc R, .mul m hm (.mk hr hR), he⟩

/-- **C03, value of product/quotient chains.**  Whatever chain the grammar (= the parser, by
`C03_accepts_iff_derivable`) reads as a `MultE`, the documented left-to-right reading derives the
same tokens and the two trees evaluate identically at every assignment. -/
theorem C03_mult_left_to_right (ts : List Tok) (e : Ex) (h : G.MultE ts e) :
    ∃ e', G.MultELR ts e' ∧ EvalEq e e' := by
  cases h with
  | mk h0 hl =>
      obtain ⟨e', h', he⟩ := multLoop_to_LR hl _ (.refl _)
      exact ⟨e', .mk h0 h', he⟩

/-- and conversely every left-to-right reading is also read by the parser, with the same value -/
theorem C03_mult_left_to_right_conv (ts : List Tok) (e' : Ex) (h : G.MultELR ts e') :
    ∃ e, G.MultE ts e ∧ EvalEq e e' := by
  cases h with
  | mk h0 hl =>
      obtain ⟨e, h₁, he⟩ := multLoopLR_to_code hl _ (EvalEq.refl _)
      exact ⟨e, .mk h0 h₁, he⟩

end Mathy
