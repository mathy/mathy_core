/-
Source tie for the evaluator (C05): `Gen/PySrcEval.lean` is the translation of the `operate` method of
every expression class and of the recursion spelled out by the four `evaluate` methods of the live
`mathy_core/expressions.py` (harness/py2lean_eval.py, over Model/PyRtNum.lean).
-/
import Mathy.Proofs.PySrcAgreeEval
import Mathy.Props.C05
namespace Mathy
open Mathy.Py Mathy.Gen.Src Mathy.SrcAgree

/-- **Source tie, evaluator (C05).** `evaluate` as translated from the live source is the model's
`pyEval`: the same value with the same int/float type, NaN, or the same exception. -/
theorem Src_evaluate (env : PyEnv) (e : PEx) : MathExpression_evaluate env e = pyEval env e :=
  evaluate_agree env e

/-- **(C05) exactness of the translated evaluator** on integer inputs, at any magnitude
(`C05_int_exact`) -/
theorem Src_evaluate_int_exact (env : Char → Int) (t : PEx) (z : Int) (hz : zDenote env t = some z) :
    MathExpression_evaluate (fun c => some (.int (env c))) t = .ok (.int z) := by
  rw [Src_evaluate]; exact C05_int_exact env t z hz

/-- **(C05) an unbound (or `None`) variable that occurs in the expression is an error** -/
theorem Src_evaluate_unbound (env : PyEnv) (t : PEx) (x : Char) (hx : mentions x t = true) (he : env x = none) :
    ∃ e, MathExpression_evaluate env t = .error e := by
  rw [Src_evaluate]; exact C05_unbound_is_error env t x hx he

/-- **(C05) the translated division by zero is NaN** whatever the dividend -/
theorem Src_divide_by_zero (a : PyVal) :
    DivideExpression_operate a (.int 0) = .ok .nan ∧ DivideExpression_operate a (.flt 0) = .ok .nan := by
  rw [div_agree, div_agree]; exact C05_div_by_zero a

example : MathExpression_evaluate (fun _ => some (.int 3)) (.bin .pow (.cint 7) (.bin .mul (.var 'x') (.cint 40))) =
    .ok (.int (7 ^ 120)) := by
  rw [Src_evaluate]; rfl

end Mathy
