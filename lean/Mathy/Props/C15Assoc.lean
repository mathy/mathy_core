/-
C15 for the rule that uses the rotation (associative_swap.py): the model of
`AssociativeSwapRule.apply_to` on expression trees IS `rotate` of the generic tree model at the
position of the node, so every rotation theorem transfers to the rule at every position of every tree.
-/
import Mathy.Proofs.Arr
import Mathy.Proofs.ExBT
import Mathy.Props.C15

namespace Mathy
open BT

/-- **The associative rule is a rotation**: wherever the rule applies, the whole tree after
`apply_to(node)` has exactly the link structure of the tree before with `node.rotate()` performed
at the node's position.  (`hcan` is not used, here or in the two corollaries: `asApply` rotates whatever
the two operators are.) -/
theorem C15_assoc_is_rotation (k k' : Ctx) (n n' : Ex) (hcan : asCan k n = true)
    (h : asApply k n = .ok (k', n')) :
    (plug k' n').toBT = (plug k n).toBT.rotateAt (ctxPath k) := by
  -- rotating at `ctxPath k' ++ [f.dir]` replaces the sub-tree at the parent's position, `f.fill n`,
  -- by its top rotation, which is `n'`
  obtain ⟨f, rfl, hrot⟩ := (asApply_inv h).toBT_rotateTop
  rw [ctxPath_cons, rotateAt_snoc, plug, toBT_sub_ctxPath, hrot]
  -- the path as `_ ++ []`, the form in which `toBT_plug_replaceAt` takes it
  rw [← List.append_nil (ctxPath _)]
  exact (toBT_plug_replaceAt _ _ _ [] _ (replaceAt_root _ _)).symm

/-- the rule never fails where it reports applicable -/
theorem C15_assoc_total (k : Ctx) (n : Ex) (hcan : asCan k n = true) :
    ∃ k' n', asApply k n = .ok (k', n') := by
  obtain ⟨⟨k', n'⟩, h⟩ := asApply_total hcan
  exact ⟨k', n', h⟩

/-- corollary: the rule preserves the in-order sequence of node objects at every position -/
theorem C15_assoc_inorder (k k' : Ctx) (n n' : Ex) (hcan : asCan k n = true)
    (h : asApply k n = .ok (k', n')) :
    (plug k' n').tags = (plug k n).tags := by
  rw [← toBT_ids, ← toBT_ids, C15_assoc_is_rotation k k' n n' hcan h, C15_rotate_inorder]

/-- corollary: after the rule the node sits where its parent was (below the old grandparent, the
rest of the context) and its old parent is its child -/
theorem C15_assoc_moves_up (k k' : Ctx) (n n' : Ex) (hcan : asCan k n = true)
    (h : asApply k n = .ok (k', n')) :
    k' = k.tail ∧ n'.tag = n.tag ∧
      ∃ f, k = f :: k' ∧
        ((∃ pt po c, f = .binL pt po c ∧ (n'.right?.map Ex.tag) = some pt) ∨
         (∃ pt po a, f = .binR pt po a ∧ (n'.left?.map Ex.tag) = some pt)) := by
  cases asApply_inv h
  · exact ⟨rfl, rfl, _, rfl, .inl ⟨_, _, _, rfl, rfl⟩⟩
  · exact ⟨rfl, rfl, _, rfl, .inr ⟨_, _, _, rfl, rfl⟩⟩

/-- non-vacuity: `c + d` inside `(a + (b + (c + d))) + e` (mixed nesting, depth 3) -/
example :
    let cd := Ex.bin 7 .add (.var 6 'c') (.var 8 'd')
    let k : Ctx := [.binR 5 .add (.var 4 'b'), .binR 3 .add (.var 2 'a'), .binL 9 .add (.var 10 'e')]
    asCan k cd = true ∧ ctxPath k = [.L, .R, .R] := by decide

end Mathy
