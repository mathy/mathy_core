/-
Property C09 — any sequence of rewrites keeps the expression equivalent to the original.

A step applies any rule configuration at any node where it reports applicable (to a copy cloned
from the root — in the functional model states are values, so "earlier states are never altered"
holds by construction; at the Python level it is checked by re-snapshotting every earlier root).
-/
import Mathy.Props.C01
import Mathy.Props.C02
import Mathy.Props.C07
namespace Mathy

/-- `Steps t₀ tₙ`: `tₙ` is reachable from `t₀` by finitely many applicable rewrites -/
inductive Steps : Ex → Ex → Prop where
  | refl (t : Ex) : Steps t t
  | step {a b c : Ex} (r : Rule) (i : Nat) :
      Steps a b → i ∈ findNodes r b → applyAt r b i = .ok c → Steps a c

/-- equations: every state of the sequence holds exactly where the start holds (same solution
set wherever defined) -/
theorem C09_equation_sequence (t0 tn : Ex) (h : Steps t0 tn) : HoldsRefines t0 tn := by
  induction h with
  | refl => exact HoldsRefines.refl _
  | step r i _ hcan happ ih => exact ih.trans (C02_rewrite_preserves_truth r _ _ i hcan happ)

theorem applyAt_root_kind (r : Rule) (t t' : Ex) (i : Nat)
    (hcan : i ∈ findNodes r t) (happ : applyAt r t i = .ok t') : t'.isOp .eq = t.isOp .eq := by
  obtain ⟨k, n, k', n', rfl, rfl, hc, h⟩ := applyAt_step hcan happ
  exact applyRule_kind hc h

/-- expressions: every state of the sequence has the value of the start wherever the start is
defined, and is still an expression -/
theorem C09_expression_sequence (t0 tn : Ex) (h : Steps t0 tn) (hexpr : t0.isOp .eq = false) :
    Refines t0 tn ∧ tn.isOp .eq = false := by
  induction h with
  | refl => exact ⟨Refines.refl _, hexpr⟩
  | step r i _ hcan happ ih =>
    obtain ⟨h1, h2⟩ := ih
    refine ⟨h1.trans (C01_rewrite_preserves_value r _ _ i hcan happ h2), ?_⟩
    rw [applyAt_root_kind r _ _ i hcan happ]; exact h2

/-- the set of variables never changes along a sequence -/
theorem C09_variables (t0 tn : Ex) (h : Steps t0 tn) (c : Char) : c ∈ tn.vars ↔ c ∈ t0.vars := by
  induction h with
  | refl => exact Iff.rfl
  | step r i _ hcan happ ih =>
    obtain ⟨k, n, k', n', rfl, rfl, hc, h⟩ := applyAt_step hcan happ
    exact (C07_same_variables r k k' n n' hc h c).trans ih

end Mathy
