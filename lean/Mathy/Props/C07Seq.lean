/-
C07 along sequences: "no node object occurs twice" is an invariant of every sequence of rewrites
applied to the SAME objects (in-place application keeps identities).  Only the objects of the start
tree are tracked: an object created by a step has tag 0, and the next step sees it as one more new
object.
-/
import Mathy.Props.C07
import Mathy.Props.C09
namespace Mathy

/-- each object of the start tree occurs in a reachable state at most as often as at the start
(0 or 1 times when the start tree is well formed) -/
theorem C07_sequence_no_object_duplicated (t0 tn : Ex) (h : Steps t0 tn) (x : Nat) (hx : x ≠ 0) :
    tn.tags.count x ≤ t0.tags.count x := by
  induction h with
  | refl => exact Nat.le_refl _
  | step r i _ hcan happ ih =>
    obtain ⟨k, n, k', n', rfl, rfl, -, h⟩ := applyAt_step hcan happ
    exact (C07_no_object_duplicated r k k' n n' h x hx).trans ih

/-- **C07 for sequences**: in every state reachable by any sequence of applicable rewrites no
object of the start tree occurs twice. -/
theorem C07_sequence_tags_ok (t0 tn : Ex) (h : Steps t0 tn) (ht : TagsOk t0) : TagsOk tn :=
  fun x hx => (C07_sequence_no_object_duplicated t0 tn h x hx).trans (ht x hx)

end Mathy
