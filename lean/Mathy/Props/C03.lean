/-
Property C03 — text is read according to the documented grammar and order of operations.

`Spec/Grammar.lean` states the documented grammar as derivation relations that carry the
prescribed tree.  Here: for every token list, the parser accepts exactly the derivable strings and
returns exactly the prescribed tree.  That the grouping the implementation uses for `*` has the
documented left-to-right value is in `Props/C03Value.lean`; the character layer (string -> tokens)
is property C11.
-/
import Mathy.Spec.Grammar
import Mathy.Proofs.ParserSound
import Mathy.Proofs.ParserComplete
namespace Mathy

/-- **soundness**: whatever the parser accepts is derivable, with the tree it returned -/
theorem C03_parse_sound (body : List Tok) (e : Ex) (hb : ∀ t ∈ body, t.type ≠ .eof)
    (h : parseToks (body ++ [eofTok]) = .ok e) : G.EqualE body e :=
  parseToks_sound body e hb h

/-- **completeness**: whatever the grammar derives is accepted, with the prescribed tree -/
theorem C03_parse_complete (body : List Tok) (e : Ex) (hb : ∀ t ∈ body, t.type ≠ .eof)
    (h : G.EqualE body e) : parseToks (body ++ [eofTok]) = .ok e :=
  parseToks_complete body e hb h

/-- parsing succeeds exactly when the grammar derives the string, and then the tree is the
prescribed one -/
theorem C03_accepts_iff_derivable (body : List Tok) (hb : ∀ t ∈ body, t.type ≠ .eof) (e : Ex) :
    parseToks (body ++ [eofTok]) = .ok e ↔ G.EqualE body e :=
  ⟨C03_parse_sound body e hb, C03_parse_complete body e hb⟩

/-- the grammar is unambiguous: a string has at most one reading -/
theorem C03_unambiguous (body : List Tok) (hb : ∀ t ∈ body, t.type ≠ .eof) (e e' : Ex)
    (h : G.EqualE body e) (h' : G.EqualE body e') : e = e' := by
  have h1 := C03_parse_complete body e hb h
  have h2 := C03_parse_complete body e' hb h'
  rw [h1] at h2
  exact Except.ok.inj h2

end Mathy
