/-
The tie between the code and the model, as theorems, for the rules.  `Gen/PySrcRules.lean` is printed
on every run by the translator `harness/py2lean.py` from the live Python source (of the nine rules
the classifiers `can_apply_to` / `get_type` listed at `srcCanApply`).  The theorems below say that the
hand-written model, the one every property theorem is about, computes exactly what the translated
source computes, at every position of every tree: if one of those Python functions changes its
behaviour, the corresponding theorem fails to build.

Trusted: the translator (a syntax-directed map on a small Python fragment) and the run-time library
`Model/PyRt.lean` (what `.left/.right/.parent`, `isinstance`, `get_sibling`, `get_root`,
`get_root_side`, `find_type` mean on a well-formed tree); `factor_add_terms_ex` of util.py enters the
translated classifier of factor-out as the hand-written `factorAddTermsEx`.  Not translated, and tied
by the differential correspondence only: the mutating halves of the rules (`apply_to`), the rest of
util.py (`get_term`, `factor`, `factor_add_terms_ex`, `get_sub_terms`), layout, problems.

The string tables of `Src_arrangements` (`SrcAgree.CAType.pyName` …, `SrcAgree.miPyType`) stand in the proof file
of their rule, Proofs/PySrcAgree*.lean.
-/
import Mathy.Proofs.PySrcAgreeCA
import Mathy.Proofs.PySrcAgreeDF
import Mathy.Proofs.PySrcAgreeVM
import Mathy.Proofs.PySrcAgreeBM
import Mathy.Props.C06
namespace Mathy
open Mathy.Py Mathy.Gen.Src Mathy.SrcAgree

/-- The Python classifier of a rule.  For six rules it is the translated `can_apply_to`.  Of constants,
inverse and restate only `get_type` is translated; there it is `get_type(node) is not None`, which is
what their one-line `can_apply_to` says in the source today (`constants_simplify.py`,
`multiplicative_inverse.py`, `restate_subtraction.py`): a change to one of those three methods alone
changes no generated file. -/
def srcCanApply : Rule → Ref → Bool
  | .associative => AssociativeSwapRule_can_apply_to
  | .commutative p => CommutativeSwapRule_can_apply_to p
  | .constants => fun r => (ConstantsSimplifyRule_get_type r).isSome
  | .distribute => DistributiveMultiplyRule_can_apply_to
  | .inverse => fun r => (MultiplicativeInverseRule_get_type r).isSome
  | .restate => fun r => (RestateSubtractionRule_get_type r).isSome
  | .factorOut c => DistributiveFactorOutRule_can_apply_to c
  | .variableMultiply => VariableMultiplyRule_can_apply_to
  | .balancedMove => BalancedMoveRule_can_apply_to

/-- **Source tie, classifiers.** For all nine rules (all options), at every position of every tree,
the model's `canApply` is the Python classifier. -/
theorem Src_canApply (r : Rule) (k : Ctx) (n : Ex) :
    srcCanApply r (some ⟨k, n⟩) = canApply r k n := by
  cases r with
  | associative => exact associative_can_agree k n
  | commutative p => exact commutative_can_agree p k n
  | constants => exact constants_can_agree k n
  | distribute => exact distribute_can_agree k n
  | inverse => exact inverse_can_agree k n
  | restate => exact restate_can_agree k n
  | factorOut c => exact df_can_agree c k n
  | variableMultiply => exact vm_can_agree k n
  | balancedMove => exact bm_can_agree k n

/-- **Source tie, node search (C06).** `find_nodes` of the model lists exactly the in-order
positions at which the translated Python classifier answers `True`.  (The translated search:
`Src_find_nodes`, Props/SrcTieVisit.lean.) -/
theorem Src_findNodes (r : Rule) (t : Ex) (i : Nat) :
    i ∈ findNodes r t ↔ ∃ k n, focusAt t i = some (k, n) ∧ srcCanApply r (some ⟨k, n⟩) = true := by
  simp only [C06_findNodes_exact, Src_canApply]

/-- **Source tie, arrangements (C08).** The arrangement names the Python classifiers return are
the model's arrangements. -/
theorem Src_arrangements (k : Ctx) (n : Ex) :
    (ConstantsSimplifyRule_get_type (some ⟨k, n⟩)).map (·.1) = (caType n).map CAType.pyName ∧
    RestateSubtractionRule_get_type (some ⟨k, n⟩) = (rsType k n).map RSType.pyName ∧
    MultiplicativeInverseRule_get_type (some ⟨k, n⟩) = miPyType n ∧
    (DistributiveFactorOutRule_get_type (some ⟨k, n⟩)).map (·.1) = (dfType n).map DFType.pyName ∧
    (VariableMultiplyRule_get_type (some ⟨k, n⟩)).map (·.1) = (vmType n).map VMType.pyName ∧
    BalancedMoveRule_get_type (some ⟨k, n⟩) = (bmType k n).map BMType.pyName :=
  ⟨constants_type_agree k n, restate_type_agree k n, inverse_type_agree k n, df_type_agree k n, vm_type_agree k n,
    bm_type_agree k n⟩

/-! non-vacuity: `2 + (3 + x)` at the root -/
example : (ConstantsSimplifyRule_get_type
      (some ⟨[], .bin 1 .add (.const 2 2) (.bin 3 .add (.const 4 3) (.var 5 'x'))⟩)).map (·.1)
    = some "chained_right" := by rfl

end Mathy
