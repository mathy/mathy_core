/-
Property C16 — term analysis is order-invariant and inverse to term construction.
Models: `Model/TermsLike.lean` (get_terms, get_term as consumed by has_like_terms,
has_like_terms, terms_are_like), `Model/Util.lean` (get_term_ex, make_term, factor).
-/
import Mathy.Model.TermsLike
import Mathy.Proofs.Terms
import Mathy.Proofs.TermsLikeLemmas
import Mathy.Proofs.ParserComplete
namespace Mathy

/-- reordering and regrouping of the added terms of a sum: the congruence generated by
commutativity and associativity of `+` (node identities are irrelevant) -/
inductive SumPerm : Ex → Ex → Prop where
  | refl (t : Ex) : SumPerm t t
  | symm {a b : Ex} : SumPerm a b → SumPerm b a
  | trans {a b c : Ex} : SumPerm a b → SumPerm b c → SumPerm a c
  | comm (t t' : Nat) (a b : Ex) : SumPerm (.bin t .add a b) (.bin t' .add b a)
  | assoc (t1 t2 t3 t4 : Nat) (a b c : Ex) :
      SumPerm (.bin t1 .add (.bin t2 .add a b) c) (.bin t3 .add a (.bin t4 .add b c))
  | congL (t t' : Nat) {a a' : Ex} (b : Ex) : SumPerm a a' → SumPerm (.bin t .add a b) (.bin t' .add a' b)
  | congR (t t' : Nat) (a : Ex) {b b' : Ex} : SumPerm b b' → SumPerm (.bin t .add a b) (.bin t' .add a b')

theorem SumPerm.eq_or_add {a b : Ex} (h : SumPerm a b) :
    a = b ∨ (a.isOp .add = true ∧ b.isOp .add = true) := by
  induction h with
  | refl => exact .inl rfl
  | symm _ ih => exact ih.imp Eq.symm And.symm
  | trans _ _ ih1 ih2 =>
    rcases ih1 with rfl | h1
    · exact ih2
    · rcases ih2 with rfl | h2
      · exact .inr h1
      · exact .inr ⟨h1.1, h2.2⟩
  | _ => exact .inr ⟨rfl, rfl⟩

theorem SumPerm.sum_eq {M : Type} [AddCommMonoid M] (ψ : Ex → M)
    (hψ : ∀ t a b, ψ (.bin t .add a b) = ψ a + ψ b) {a b : Ex} (h : SumPerm a b) : ψ a = ψ b := by
  induction h with
  | refl => rfl
  | symm _ ih => exact ih.symm
  | trans _ _ ih1 ih2 => exact ih1.trans ih2
  | comm => rw [hψ, hψ, add_comm]
  | assoc => rw [hψ, hψ, hψ, hψ, add_assoc]
  | congL _ _ _ _ ih => rw [hψ, hψ, ih]
  | congR _ _ _ _ ih => rw [hψ, hψ, ih]

theorem C16_hasLike_order_invariant (t t' : Ex) (h : SumPerm t t') : hasLikeTerms t = hasLikeTerms t' := by
  rcases h.eq_or_add with rfl | ⟨ht, ht'⟩
  · rfl
  -- additive over `+`: what an operand `e` of a sum contributes to the constants counted and to the
  -- terms listed (an operand that is itself a sum is not a term; its own operands are)
  have hc := h.sum_eq (fun e => (if e.isConst then 1 else 0) + countFreeConsts e) (fun _ a b => by
    rw [countFreeConsts_add]
    show 0 + _ = _  -- the sum itself is no constant
    omega)
  have hs : (sumChildren t).Perm (sumChildren t') := by
    rw [List.perm_iff_count]
    intro x
    have := h.sum_eq (fun e => ((if e.isAddSub then [] else [e]) ++ sumChildren e).count x) (fun _ a b => by
      rw [sumChildren_add]
      show ([] ++ _).count x = _  -- nor is it listed as a term
      simp only [List.nil_append, List.count_append]
      omega)
    simpa [isAddSub_of_isOp_add ht, isAddSub_of_isOp_add ht'] using this
  simp only [isConst_of_isOp_add ht, isConst_of_isOp_add ht', Bool.false_eq_true, if_false, Nat.zero_add] at hc
  simp only [hasLikeTerms, getTerms_of_isOp_add ht, getTerms_of_isOp_add ht', hasDup_perm (hs.filterMap _), hc]

theorem C16_termsAreLike_refl (k : TermKey) : termsAreLike k k = true :=
  (termsAreLike_iff k k).mpr rfl

theorem C16_termsAreLike_symm (a b : TermKey) : termsAreLike a b = termsAreLike b a := by
  rw [Bool.eq_iff_iff, termsAreLike_iff, termsAreLike_iff, eq_comm]

/-- a term built from a triple decomposes back to the same triple (a coefficient 1 is implicit) -/
theorem C16_makeTerm_roundtrip (c : Rat) (v : Char) (e : Option Rat) (m : Ex)
    (h : makeTerm c (some v) e = some m) :
    getTermEx false m = some ⟨if c = 1 then none else some c, some v, e⟩ := by
  cases makeTerm_inv h with
  | var | pow => rfl
  | mulVar hc | mulPow hc => simp only [getTermEx, if_neg hc]

theorem C16_makeTerm_roundtrip_const (c : Rat) :
    makeTerm c none none = some (.const 0 c) ∧ getTermEx false (.const 0 c) = some ⟨some c, none, none⟩ := by
  simp [makeTerm, getTermEx]

/-- … and has the value `coefficient * variable ^ exponent` -/
theorem C16_makeTerm_value (c : Rat) (v : Option Char) (e : Option Rat) (m : Ex) (env : Env)
    (h : makeTerm c v e = some m) : eval env m = (TermEx.mk (some c) v e).res env :=
  makeTerm_sound env h

/-- extracting from the parsed text of a natural-order term `c x ^ e` returns what was written -/
theorem C16_getTermEx_of_text (ct xt pt et : Tok) (c e : Rat)
    (hc : G.Lit ct c) (hx : xt.type = .variable) (hp : pt.type = .exponent) (he : G.Lit et e) :
    ∃ tree, parseToks ([ct, xt, pt, et] ++ [eofTok]) = .ok tree ∧
      getTermEx false tree = some ⟨some c, some (xt.value.headD 'x'), some e⟩ :=
  ⟨_, parse_der (k := 2) (.litFactors ct c hc (pow_factor hx hp he)), rfl⟩

theorem C16_getTermEx_of_text_no_exponent (ct xt : Tok) (c : Rat) (hc : G.Lit ct c) (hx : xt.type = .variable) :
    ∃ tree, parseToks ([ct, xt] ++ [eofTok]) = .ok tree ∧
      getTermEx false tree = some ⟨some c, some (xt.value.headD 'x'), none⟩ :=
  ⟨_, parse_der (k := 2) (.litFactors ct c hc (var_factor hx)), rfl⟩

theorem C16_getTermEx_of_text_no_coefficient (xt pt et : Tok) (e : Rat)
    (hx : xt.type = .variable) (hp : pt.type = .exponent) (he : G.Lit et e) :
    ∃ tree, parseToks ([xt, pt, et] ++ [eofTok]) = .ok tree ∧
      getTermEx false tree = some ⟨none, some (xt.value.headD 'x'), some e⟩ :=
  ⟨_, parse_der (k := 2) (.factors (pow_factor hx hp he)), rfl⟩

/-- a negative coefficient written with a leading minus is the coefficient -/
theorem C16_getTermEx_of_text_negative (mt ct xt : Tok) (c : Rat)
    (hm : mt.type = .minus) (hc : G.Lit ct c) (hx : xt.type = .variable) :
    ∃ tree, parseToks ([mt, ct, xt] ++ [eofTok]) = .ok tree ∧
      getTermEx false tree = some ⟨some (-c), some (xt.value.headD 'x'), none⟩ :=
  ⟨_, parse_der (k := 2) (.negLitFactors mt ct c hm hc (var_factor hx)), rfl⟩

/-- the factor table of a positive integer lists exactly its divisor pairs -/
theorem C16_factor_divisor_pairs (n d : Nat) (hn : 0 < n) (hd : 0 < d) :
    (∃ q : Rat, dictGet? (factor n) d = some q) ↔ d ∣ n := by
  have _ := hd  -- not needed: a divisor of a positive number is positive
  exact factor_has_key_iff hn

theorem C16_factor_pair_product (v k w : Rat) (h : dictGet? (factor v) k = some w) : k * w = v :=
  dictGet_ok (factor_ok v) h

end Mathy
