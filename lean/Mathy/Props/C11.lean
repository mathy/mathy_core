/-
Property C11 — tokenizing is lossless, total and faithful to character classes.
Model: `Model/Tok.lean` (`tokenize pad s`; `pad = true` keeps whitespace tokens).
`supported`, `normChar`, `tokBody`: `Proofs/TokLemmas.lean`.
-/
import Mathy.Model.Tok
import Mathy.Proofs.TokLemmas
namespace Mathy

/-- **lossless**: with padding retained the token values concatenated are the input up to the
three normalisations; every character belongs to exactly one token. -/
theorem C11_lossless (s : List Char) (ts : List Tok) (h : tokenize true s = .ok ts) :
    (ts.map (·.value)).flatten = s.map normChar := by
  rw [tokenize_eq, map_eq_ok_iff] at h
  obtain ⟨body, hb, rfl⟩ := h
  simp [tokBody_lossless s body hb]

/-- exactly one end marker, at the end -/
theorem C11_eof_once (pad : Bool) (s : List Char) (ts : List Tok) (h : tokenize pad s = .ok ts) :
    ∃ body, ts = body ++ [⟨.eof, []⟩] ∧ ∀ t ∈ body, t.type ≠ .eof := by
  rw [tokenize_eq, map_eq_ok_iff] at h
  obtain ⟨body, hb, rfl⟩ := h
  exact ⟨body, rfl, tokBody_not_eof pad s body hb⟩

/-- dropping padding only removes the whitespace tokens -/
theorem C11_nopad (s : List Char) :
    tokenize false s = (tokenize true s).map (fun ts => ts.filter (fun t => t.type != .pad)) := by
  rw [tokenize_eq, tokenize_eq, tokBody_nopad]
  cases tokBody true s <;> simp [Except.map]

/-- an unsupported character raises, and it is the first one; supported strings never raise -/
theorem C11_error_iff (pad : Bool) (s : List Char) (c : Char) :
    tokenize pad s = .error c ↔
      ∃ pre post, s = pre ++ c :: post ∧ (∀ d ∈ pre, supported d = true) ∧ supported c = false := by
  rw [tokenize_eq, map_eq_error_iff, tokBody_error_iff]
  exact find?_not_eq_some_iff supported s c

theorem C11_total (pad : Bool) (s : List Char) (h : ∀ c ∈ s, supported c = true) :
    ∃ ts, tokenize pad s = .ok ts := by
  cases ht : tokenize pad s with
  | ok ts => exact ⟨ts, rfl⟩
  | error c =>
    obtain ⟨pre, post, rfl, _, hc⟩ := (C11_error_iff pad s c).1 ht
    have := h c (by simp)
    rw [hc] at this
    cases this

/-- maximal munch, numbers: a maximal run of digits/dots is one constant token -/
theorem C11_number_run (pad : Bool) (run rest : List Char) (hne : run ≠ [])
    (hrun : ∀ c ∈ run, isNumber c = true) (hrest : ∀ c, rest.head? = some c → isNumber c = false) :
    tokBody pad (run ++ rest) = (tokBody pad rest).map (fun ts => ⟨.constant, run⟩ :: ts) := by
  cases run with
  | nil => exact absurd rfl hne
  | cons c run' =>
    have hc := hrun c (by simp)
    rw [← lexClass_number hc] at hrun hrest
    exact (tokBody_lexeme pad c run' rest (fun d hd => hrun d (by simp [hd])) hrest).trans
      (by rw [lexToks_number hc]; rfl)

/-- maximal munch, letters: each letter of a maximal letter run is its own variable, unless the
WHOLE run is a registered function name -/
theorem C11_alpha_run (pad : Bool) (run rest : List Char) (hne : run ≠ [])
    (hrun : ∀ c ∈ run, isAlpha c = true) (hrest : ∀ c, rest.head? = some c → isAlpha c = false) :
    tokBody pad (run ++ rest) =
      (tokBody pad rest).map (fun ts =>
        (if functionNames.contains run then [⟨.function, run⟩]
         else run.map fun c => ⟨.variable, [c]⟩) ++ ts) := by
  cases run with
  | nil => exact absurd rfl hne
  | cons c run' =>
    have hc := hrun c (by simp)
    rw [← lexClass_alpha hc] at hrun hrest
    exact (tokBody_lexeme pad c run' rest (fun d hd => hrun d (by simp [hd])) hrest).trans
      (by rw [lexToks_alpha hc]; rfl)

/-- every other supported character is one operator / bracket / padding token -/
theorem C11_operator (pad : Bool) (c : Char) (rest : List Char) (t : List Tok)
    (hn : isNumber c = false) (ha : isAlpha c = false) (ho : operatorTok pad c = some t) :
    tokBody pad (c :: rest) = (tokBody pad rest).map (fun ts => t ++ ts) := by
  rw [tokBody_cons, lexToks_other hn ha, lexClass_other hn ha, dropWhile_false, ho]
  rfl

/-! non-vacuity: every kind of lexeme with the three normalisations; an unsupported character -/
example : tokenize true "4x + sgn(2.5)–[y]".toList = .ok
    [⟨.constant, ['4']⟩, ⟨.variable, ['x']⟩, ⟨.pad, [' ']⟩, ⟨.plus, ['+']⟩, ⟨.pad, [' ']⟩,
     ⟨.function, "sgn".toList⟩, ⟨.openParen, ['(']⟩, ⟨.constant, "2.5".toList⟩, ⟨.closeParen, [')']⟩,
     ⟨.minus, ['-']⟩, ⟨.openParen, ['(']⟩, ⟨.variable, ['y']⟩, ⟨.closeParen, [')']⟩, ⟨.eof, []⟩] := by
  rfl

example : tokenize false "2 # 3".toList = .error '#' := by rfl

end Mathy
