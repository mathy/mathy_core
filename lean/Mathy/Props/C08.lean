/-
Property C08 — each rule performs its documented transformation on its documented forms.

One schema theorem per documented form, for all sub-expressions, coefficients, variables, exponents,
node identities and contexts `k` (`applyRule r k n = .ok (k, n')`: the node `n` under any context `k`
is replaced by `n'` and the context is returned untouched).  Five fix the context: `C08_preferred_stays`,
`C08_no_factor_unlike`, `C08_no_factor_unlike_fails_for_fractions` (the root, `k = []`), `C08_move_addend`,
`C08_divide_coefficient` (two frames: the node directly below the top node of the left side).
-/
import Mathy.Proofs.SchemaLemmas
import Mathy.Proofs.Arr
namespace Mathy

/-- `a + b ↦ b + a` (when `a` is not itself a sum: otherwise the inner operands are exchanged to
avoid nesting, `C08_swap_add_chain`) -/
theorem C08_swap_add (p : Bool) (k : Ctx) (t : Nat) (a b : Ex) (ha : a.isOp .add = false) :
    canApply (.commutative p) k (.bin t .add a b) = true ∧
    applyRule (.commutative p) k (.bin t .add a b) = .ok (k, .bin t .add b a) :=
  ⟨by simp [canApply, csCan], csApply_swap k t .add a b ha⟩

theorem C08_swap_add_chain (p : Bool) (k : Ctx) (t t' : Nat) (a b c : Ex) :
    applyRule (.commutative p) k (.bin t .add (.bin t' .add a b) c)
      = .ok (k, .bin t .add (.bin t' .add a c) b) := by
  simp [applyRule, csApply]

/-- `a * b ↦ b * a` -/
theorem C08_swap_mul (k : Ctx) (t : Nat) (a b : Ex) (ha : a.isOp .mul = false) :
    canApply (.commutative true) k (.bin t .mul a b) = true ∧
    applyRule (.commutative true) k (.bin t .mul a b) = .ok (k, .bin t .mul b a) :=
  ⟨by simp [canApply, csCan], csApply_swap k t .mul a b ha⟩

/-- an equation can always be flipped -/
theorem C08_swap_eq (p : Bool) (k : Ctx) (t : Nat) (a b : Ex) :
    canApply (.commutative p) k (.bin t .eq a b) = true ∧
    applyRule (.commutative p) k (.bin t .eq a b) = .ok (k, .bin t .eq b a) :=
  ⟨by simp [canApply, csCan], by simp [applyRule, csApply]⟩

theorem C08_no_swap_sub_div (p : Bool) (k : Ctx) (t : Nat) (a b : Ex) :
    canApply (.commutative p) k (.bin t .sub a b) = false ∧
    canApply (.commutative p) k (.bin t .div a b) = false ∧
    canApply (.commutative p) k (.bin t .pow a b) = false := by
  simp [canApply, csCan]

/-- with `preferred = False` a term in preferred form `4x` does not commute (unless it is part of
a larger product) -/
theorem C08_preferred_stays (t t1 t2 : Nat) (c : Rat) (x : Char) :
    canApply (.commutative false) [] (.bin t .mul (.const t1 c) (.var t2 x)) = false := by
  simp [canApply, csCan, parentIs, Ex.isConst, Ex.isVar]

/-- `(a + b) + c ↦ a + (b + c)`, applied at the inner sum; the rest of the context is kept (the four
regrouping schemas are the two arms of `asApply` as they stand) -/
theorem C08_regroup_add_left (k : Ctx) (tp tn : Nat) (a b c : Ex) :
    canApply .associative (.binL tp .add c :: k) (.bin tn .add a b) = true ∧
    applyRule .associative (.binL tp .add c :: k) (.bin tn .add a b)
      = .ok (k, .bin tn .add a (.bin tp .add b c)) :=
  ⟨rfl, rfl⟩

/-- `a + (b + c) ↦ (a + b) + c` -/
theorem C08_regroup_add_right (k : Ctx) (tp tn : Nat) (a b c : Ex) :
    canApply .associative (.binR tp .add a :: k) (.bin tn .add b c) = true ∧
    applyRule .associative (.binR tp .add a :: k) (.bin tn .add b c)
      = .ok (k, .bin tn .add (.bin tp .add a b) c) :=
  ⟨rfl, rfl⟩

theorem C08_regroup_mul_left (k : Ctx) (tp tn : Nat) (a b c : Ex) :
    canApply .associative (.binL tp .mul c :: k) (.bin tn .mul a b) = true ∧
    applyRule .associative (.binL tp .mul c :: k) (.bin tn .mul a b)
      = .ok (k, .bin tn .mul a (.bin tp .mul b c)) :=
  ⟨rfl, rfl⟩

theorem C08_regroup_mul_right (k : Ctx) (tp tn : Nat) (a b c : Ex) :
    canApply .associative (.binR tp .mul a :: k) (.bin tn .mul b c) = true ∧
    applyRule .associative (.binR tp .mul a :: k) (.bin tn .mul b c)
      = .ok (k, .bin tn .mul (.bin tp .mul a b) c) :=
  ⟨rfl, rfl⟩

theorem C08_no_regroup_mixed (k : Ctx) (tp tn : Nat) (a b c : Ex) :
    canApply .associative (.binL tp .mul c :: k) (.bin tn .add a b) = false ∧
    canApply .associative (.binL tp .sub c :: k) (.bin tn .add a b) = false :=
  ⟨rfl, rfl⟩

/-- `c1 op c2 ↦` the folded constant, for `+ - *`, for `/` with a non-zero divisor -/
theorem C08_fold (k : Ctx) (t t1 t2 : Nat) (c1 c2 : Rat) :
    applyRule .constants k (.bin t .add (.const t1 c1) (.const t2 c2)) = .ok (k, .const 0 (c1 + c2)) ∧
    applyRule .constants k (.bin t .sub (.const t1 c1) (.const t2 c2)) = .ok (k, .const 0 (c1 - c2)) ∧
    applyRule .constants k (.bin t .mul (.const t1 c1) (.const t2 c2)) = .ok (k, .const 0 (c1 * c2)) ∧
    (c2 ≠ 0 → applyRule .constants k (.bin t .div (.const t1 c1) (.const t2 c2)) = .ok (k, .const 0 (c1 / c2))) :=
  ⟨applyRule_constants_simple k t t1 t2 (by decide) rfl, applyRule_constants_simple k t t1 t2 (by decide) rfl,
    applyRule_constants_simple k t t1 t2 (by decide) rfl, fun h => applyRule_constants_simple k t t1 t2 (by decide) (if_neg h)⟩

/-- `a·x + b·x ↦ (a + b) · x` for positive integer coefficients (with a variable present the
smallest common factor, 1, is the one pulled out) -/
theorem C08_factor_like_terms (k : Ctx) (t t1 t2 t3 t4 t5 t6 : Nat) (a b : Nat) (x : Char)
    (ha : 0 < a) (hb : 0 < b) :
    applyRule (.factorOut false) k
        (.bin t .add (.bin t1 .mul (.const t2 a) (.var t3 x)) (.bin t4 .mul (.const t5 b) (.var t6 x)))
      = .ok (k, .bin 0 .mul (.bin 0 .add (.const 0 a) (.const 0 b)) (.var 0 x)) := by
  simp [applyRule, dfApply, dfStep_simple t .mulVar .mulVar, dfCore,
    factorAddTermsEx_mulVar (Nat.one_le_cast.mpr ha) (Nat.one_le_cast.mpr hb), makeTerm]

/-- unlike variables are not factored -/
theorem C08_no_factor_unlike (t t1 t2 t3 t4 t5 t6 : Nat) (a b : Nat) (x y : Char) (hxy : x ≠ y)
    (ha : 0 < a) (hb : 0 < b) :
    canApply (.factorOut false)
        [] (.bin t .add (.bin t1 .mul (.const t2 a) (.var t3 x)) (.bin t4 .mul (.const t5 b) (.var t6 y))) = false := by
  simp [canApply, dfCan, dfStep_simple t .mulVar .mulVar, dfFactorOk,
    factorAddTermsEx_mulVar (Nat.one_le_cast.mpr ha) (Nat.one_le_cast.mpr hb), hxy]

/-- The statement above does not extend from positive integers to all coefficients: for one and the
same coefficient strictly between 0 and 1 the rule (code and model alike) accepts unlike terms, because
the smallest common "factor" of `c` and `c` is then `c`, not `1`.  Witness `0.5y + 0.5z` (the open
finding C08-factor-out-equal-fractional-coefficients, replayed against the real rule on every run). -/
theorem C08_no_factor_unlike_fails_for_fractions :
    canApply (.factorOut false) []
      (.bin 0 .add (.bin 0 .mul (.const 0 (1/2)) (.var 0 'y')) (.bin 0 .mul (.const 0 (1/2)) (.var 0 'z'))) = true := by
  decide +kernel

/-- pure constants are not factored unless enabled -/
theorem C08_no_factor_constants (k : Ctx) (t t1 t2 : Nat) (a b : Rat) :
    canApply (.factorOut false) k (.bin t .add (.const t1 a) (.const t2 b)) = false := by
  simp [canApply, dfCan, dfStep_simple t .const .const, dfFactorOk]

/-- `a(b + c) ↦ ab + ac` and `(b + c)a ↦ ab + ac`, each product possibly written constant-first -/
theorem C08_distribute (k : Ctx) (t t' : Nat) (a b c : Ex) (ha : a.isOp .add = false) :
    canApply .distribute k (.bin t .mul a (.bin t' .add b c)) = true ∧
    applyRule .distribute k (.bin t .mul a (.bin t' .add b c)) = .ok (k, dmBuild a b c) ∧
    applyRule .distribute k (.bin t .mul (.bin t' .add b c) a) = .ok (k, dmBuild a b c) ∧
    ∃ ab ac, dmBuild a b c = .bin 0 .add ab ac ∧
      (ab = .bin 0 .mul a.clone b.clone ∨ ab = .bin 0 .mul b.clone a.clone) ∧
      (ac = .bin 0 .mul a.clone c.clone ∨ ac = .bin 0 .mul c.clone a.clone) := by
  refine ⟨by simp [canApply, dmCan, Ex.isOp], dmApply_right k t t' b c ha, rfl, _, _, rfl, ?_, ?_⟩
  · split
    · exact .inr rfl
    · exact .inl rfl
  · split
    · exact .inr rfl
    · exact .inl rfl

/-- `a / b ↦ a * (1 / b)` -/
theorem C08_inverse (k : Ctx) (t : Nat) (a b : Ex) (hb : b.isUn .neg = false) :
    canApply .inverse k (.bin t .div a b) = true ∧
    applyRule .inverse k (.bin t .div a b)
      = .ok (k, .bin 0 .mul a.clone (.bin 0 .div (.const 0 1) b.clone)) :=
  ⟨by simp [canApply, miCan, Ex.isOp], miApply_plain k t a hb⟩

/-- `a - b ↦ a + (-b)` under a sum, an equation or at the root, stated for a `b` that is no constant,
no negation and no product (the rule has arms of its own for a negative constant, a negated variable
and a product with a leading constant; the other constants, negations and products go as here) -/
theorem C08_restate_sub (k : Ctx) (t : Nat) (a b : Ex)
    (hk : rsParentOk k = true) (hb1 : b.isConst = false) (hb2 : b.isUn .neg = false) (hb3 : b.isOp .mul = false) :
    applyRule .restate k (.bin t .sub a b) = .ok (k, .bin 0 .add a (.un 0 .neg b)) := by
  -- the last arm of `rsStep` on a difference: the three before it are excluded
  have : rsStep k (.bin t .sub a b) = some (.subtraction, .bin 0 .add a (.un 0 .neg b)) := by
    simp only [rsStep, hk, if_true]
    split
    · cases hb2
    · cases hb1
    · cases hb3
    · rfl
  simp only [applyRule, rsApply, this]

/-- `a + (-c) ↦ a - c` for a negative constant -/
theorem C08_restate_add_neg_const (k : Ctx) (t t1 : Nat) (a : Ex) (c : Rat) (hc : c < 0) :
    applyRule .restate k (.bin t .add a (.const t1 c)) = .ok (k, .bin 0 .sub a (.const 0 (-c))) := by
  simp [applyRule, rsApply, rsStep, hc]

/-- `a - c·x ↦ a + (-c)·x` -/
theorem C08_restate_sub_term (k : Ctx) (t t1 t2 : Nat) (a r : Ex) (c : Rat) (hk : rsParentOk k = true) :
    applyRule .restate k (.bin t .sub a (.bin t1 .mul (.const t2 c) r))
      = .ok (k, .bin 0 .add a (.bin 0 .mul (.const 0 (c * -1)) r.clone)) := by
  simp [applyRule, rsApply, rsStep, hk]

/-- `x^a * x^b ↦ x^(a + b)` -/
theorem C08_variable_multiply (k : Ctx) (t t1 t2 t3 t4 t5 t6 : Nat) (x : Char) (a b : Rat) :
    applyRule .variableMultiply k
        (.bin t .mul (.bin t1 .pow (.var t2 x) (.const t3 a)) (.bin t4 .pow (.var t5 x) (.const t6 b)))
      = .ok (k, .bin 0 .pow (.var 0 x) (.bin 0 .add (.const 0 a) (.const 0 b))) := by
  simp only [applyRule, vmApply, vmStep_simple t .pow .pow rfl rfl rfl]
  rfl

/-- implicit exponents: `x * x^b ↦ x^(1 + b)` -/
theorem C08_variable_multiply_implicit (k : Ctx) (t t1 t2 t3 t4 : Nat) (x : Char) (b : Rat) :
    applyRule .variableMultiply k
        (.bin t .mul (.var t1 x) (.bin t2 .pow (.var t3 x) (.const t4 b)))
      = .ok (k, .bin 0 .pow (.var 0 x) (.bin 0 .add (.const 0 1) (.const 0 b))) := by
  simp only [applyRule, vmApply, vmStep_simple t .var .pow rfl rfl rfl]
  rfl

theorem C08_no_variable_multiply (k : Ctx) (t t1 t2 : Nat) (x y : Char) (hxy : x ≠ y) :
    canApply .variableMultiply k (.bin t .mul (.var t1 x) (.var t2 y)) = false := by
  simp [canApply, vmCan, vmStep, getTermEx, hxy]

/-- `L + a = R ↦ L = R - a` for a constant addend at the top level of the left side -/
theorem C08_move_addend (te ta t1 : Nat) (L R : Ex) (c : Rat) (hL : L.isOp .eq = false) (hR : R.isOp .eq = false) :
    canApply .balancedMove [.binR ta .add L, .binL te .eq R] (.const t1 c) = true ∧
    applyRule .balancedMove [.binR ta .add L, .binL te .eq R] (.const t1 c)
      = .ok ([], .bin 0 .eq L.clone (.bin 0 .sub R.clone (.const 0 c))) := by
  -- not needed: `bmType` asks that the side `L + c` is no equation, and it is a sum
  have _ := hL
  simp [canApply, applyRule, bmCan, bmApply, bmType, splitRoot, parentIs, Frame.isOp, plug, Frame.fill,
    Ex.isOp_bin, Ex.isConst, allAdd, removeAddend, Ex.clone, hR]

/-- `c·x = R ↦ c·x / c = R / c` for a non-zero coefficient (no addition left on that side) -/
theorem C08_divide_coefficient (te tm t1 t2 : Nat) (x : Char) (R : Ex) (c : Rat) (hc : c ≠ 0)
    (hR : R.isOp .eq = false) :
    canApply .balancedMove [.binL tm .mul (.var t2 x), .binL te .eq R] (.const t1 c) = true ∧
    applyRule .balancedMove [.binL tm .mul (.var t2 x), .binL te .eq R] (.const t1 c)
      = .ok ([], .bin 0 .eq (.bin 0 .div (.bin 0 .mul (.const 0 c) (.var 0 x)) (.const 0 c))
                            (.bin 0 .div R.clone (.const 0 c))) := by
  simp [canApply, applyRule, bmCan, bmApply, bmType, splitRoot, parentIs, Frame.isOp, plug, Frame.fill,
    Ex.isOp_bin, Ex.isConst, hasAdd, Ex.clone, hR, hc]

end Mathy
