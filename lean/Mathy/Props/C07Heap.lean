/-
Property C07 at the level of POINTERS, for the two operations every rule's `apply_to` ends with:
building the replacement out of new nodes (`BinaryExpression(left, right)` = `set_left`, `set_right`
on a new object) and splicing it in (`ExpressionChangeRule.done` → `parent.set_side(result, side)`).
The pointer assignments are those of `set_left` / `set_right` (Model/Tree.lean, compared cell by cell
with the real `BinaryTreeNode` methods); `Rep` says that parent and child links agree at every node.
-/
import Mathy.Proofs.HeapAttach
namespace Mathy
open BT

/-- **C07 (splice).** `q.set_side(root of s, d)`, where `q` is the node at path `p` of the tree
`t` and `s` is a tree of other objects: the heap then represents `t` with the `d`-child of `q`
replaced by `s`; every other cell of `t` is as before. -/
theorem C07_heap_attach (h : Heap) (t s : BT) (par sp : Option Nat) (p : Path) (d : Dir) (q : Nat)
    (ht : Rep h t par) (hs : Rep h s sp) (hnd : (t.ids ++ s.ids).Nodup)
    (hq : (t.sub p).rootId = some q) :
    Rep (h.setSide q s.rootId d) (t.replaceAt (p ++ [d]) s) par ∧
    (∀ x ∈ t.ids, x ≠ q → (h.setSide q s.rootId d) x = h x) := by
  obtain ⟨htnd, hsnd, hts⟩ := List.nodup_append.1 hnd
  have hqs : q ∉ s.ids := fun hm => hts q (sub_ids_subset p t q (rootId_mem hq)) q hm rfl
  have hother : ∀ x ∈ t.ids, x ≠ q → (h.setSide q s.rootId d) x = h x := fun x hx hxq =>
    Heap.setSide_other h q s.rootId d x hxq fun e => hts x hx x (rootId_mem e) rfl
  exact ⟨Rep.replaceAt_snoc d (hs.setSide_attached d hsnd hqs)
    (Heap.setSide_self h q s.rootId d fun e => hqs (rootId_mem e)) p ht htnd hq
    fun a ha _ haq => hother a ha haq, hother⟩

/-- **C07 (construct).** A new object `n` given the children `a` and `b` (roots of represented
trees of other, mutually distinct objects) becomes the root of a represented tree `n(a, b)`. -/
theorem C07_heap_construct (h : Heap) (n : Nat) (a b : BT) (pa pb : Option Nat)
    (hn : h n = ⟨none, none, none⟩) (ha : Rep h a pa) (hb : Rep h b pb)
    (hnd : (n :: (a.ids ++ b.ids)).Nodup) :
    Rep ((h.setSide n a.rootId .L).setSide n b.rootId .R) (.node n a b) none := by
  have hnd' : (fork n .L a b).ids.Nodup := (ids_fork_perm n .L a b).nodup_iff.2 hnd
  obtain ⟨hna, hnb, hand, -, hab⟩ := nodup_fork.1 hnd'
  -- `n.set_left(a)` on the empty cell, then `n.set_right(b)`: `b` is not touched by the first
  have h1 : Rep (h.setSide n a.rootId .L) (fork n .L a .nil) none :=
    Rep.setSide .L (by rw [hn]) (by rw [hn]; rfl) trivial ha
      (nodup_fork.2 ⟨hna, List.not_mem_nil, hand, List.nodup_nil, fun _ _ => List.not_mem_nil⟩)
  obtain ⟨c1, -, c3, ha1, -⟩ := rep_fork.1 h1
  have hb1 : Rep (h.setSide n a.rootId .L) b pb :=
    hb.frame fun x hx => Heap.setSide_other _ _ _ _ _ (fun e => hnb (e ▸ hx)) fun e =>
      hab x (rootId_mem e) hx
  rw [← fork_R]
  exact Rep.setSide .R c3 c1 ha1 hb1 (by rwa [fork_R, ← fork_L])

/-! the tree-level hypotheses of `C07_heap_attach` can be met (no heap is exhibited) -/
example :
    let t : BT := .node 1 (.node 2 (.node 3 .nil .nil) (.node 4 .nil .nil)) (.node 5 .nil .nil)
    let s : BT := .node 7 (.node 8 .nil .nil) .nil
    t.replaceAt ([.L] ++ [.R]) s = .node 1 (.node 2 (.node 3 .nil .nil) s) (.node 5 .nil .nil) ∧
    (t.sub [.L]).rootId = some 2 ∧ (t.ids ++ s.ids).Nodup := by
  decide

end Mathy
