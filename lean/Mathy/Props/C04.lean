/-
Property C04 — printing an expression and parsing it back preserves its meaning.

Token level: `printRoot nt e` is the token list the real tokenizer yields for `str(e)` when `e` has
no `abs` node, a name the tokenizer does not register (`C04_str_tokens`; checked by the
correspondence run on every printed tree); `parseToks` is the parser.  The number formatter `nt` is a
parameter: it has to round-trip through `coerce_to_number` on the constants that occur (`NumOk`),
as Python's `int`/shortest-repr formatting of finite ints and floats does.
`PrintableL`, `Printable`, `NumOk` are defined in Proofs/PrintParse.lean.
-/
import Mathy.Props.C03
import Mathy.Proofs.PrintParse
namespace Mathy

/-- **C04.** Every printable tree with left-nested equation chains — any shape below the chain,
not only parser outputs — prints to text that the parser accepts, and the re-parsed tree
evaluates identically at every assignment (value, failed equation and undefinedness alike) and
has the same variables.  Identical evaluation needs the chains left-nested (the example below); for
arbitrary chains see `C04_print_parse_chain`. -/
theorem C04_print_parse (nt : Rat → List Char) (e : Ex) (hp : PrintableL e = true) (hn : NumOk nt e) :
    ∃ e', parseToks (printRoot nt e) = .ok e' ∧ EvalEq e e' ∧ (∀ c, c ∈ e'.vars ↔ c ∈ e.vars) := by
  obtain ⟨e', hrel, hE⟩ := PP.chainL nt e hp hn
  exact ⟨e', parseToks_complete_of_derivation hE, hrel.1, hrel.2⟩

/-- **C04, arbitrary equation chains** (incl. right-nested `a = (b = c)`, which a commutative swap
of the root produces): the text is accepted and the re-parsed tree has a value exactly where the
original has one, the same value (for equations: the same solution set); same variables. -/
theorem C04_print_parse_chain (nt : Rat → List Char) (e : Ex) (hp : Printable e = true)
    (hn : NumOk nt e) :
    ∃ e', parseToks (printRoot nt e) = .ok e' ∧
      (∀ env v, eval env e = .ok v ↔ eval env e' = .ok v) ∧ (∀ c, c ∈ e'.vars ↔ c ∈ e.vars) := by
  obtain ⟨⟨e', hE, hw, hv⟩, -⟩ := PP.chain nt e hp hn
  exact ⟨e', parseToks_complete_of_derivation hE, hw, hv⟩

/-- the right-nested `1 / 0 = (1 = 2)` prints `1 / 0 = 1 = 2`, which is read `(1 / 0 = 1) = 2`: "sides
differ" (an exception anywhere wins over a NaN: `Bad.worse`) becomes "undefined" -/
example :
    let e : Ex := .bin 0 .eq (.bin 0 .div (.const 0 1) (.const 0 0))
      (.bin 0 .eq (.const 0 1) (.const 0 2))
    Printable e = true ∧
    parseToks (printRoot showRat e) = .ok (.bin 0 .eq (.bin 0 .eq (.bin 0 .div (.const 0 1)
      (.const 0 0)) (.const 0 1)) (.const 0 2)) ∧
    eval (fun _ => 0) e = .error .unequal ∧
    eval (fun _ => 0) (.bin 0 .eq (.bin 0 .eq (.bin 0 .div (.const 0 1) (.const 0 0))
      (.const 0 1)) (.const 0 2)) = .error .undef := by
  decide +kernel

/-! non-vacuity: `(-x)^2 * (2x)^3 - -(a - b)` -/
example : parseToks (printRoot showRat
    (.bin 0 .sub (.bin 0 .mul (.bin 0 .pow (.un 0 .neg (.var 0 'x')) (.const 0 2))
                               (.bin 0 .pow (.bin 0 .mul (.const 0 2) (.var 0 'x')) (.const 0 3)))
                 (.un 0 .neg (.bin 0 .sub (.var 0 'a') (.var 0 'b')))))
  = .ok (.bin 0 .sub (.bin 0 .mul (.bin 0 .pow (.un 0 .neg (.var 0 'x')) (.const 0 2))
                               (.bin 0 .pow (.bin 0 .mul (.const 0 2) (.var 0 'x')) (.const 0 3)))
                 (.un 0 .neg (.bin 0 .sub (.var 0 'a') (.var 0 'b')))) := by
  decide +kernel

end Mathy
