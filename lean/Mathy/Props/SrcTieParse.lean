/-
Source tie for the parser: `Gen/PySrcParse.lean` is the statement-by-statement translation of the
live `mathy_core/parser.py`, `Gen/PySrcTokSt.lean` that of the tokenizer.  The theorems below are
about the translated Python; they are re-checked against what the code says now on every run.
`srcParseText`, `outcomeOf`: `Proofs/PySrcAgreeParse5.lean`; `errOf`: `Proofs/PySrcAgreeParse.lean`; `tokToPy`,
`invalidTokenMsg`: `Proofs/PySrcAgreeTokSt.lean`.
-/
import Mathy.Proofs.PySrcAgreeParse5
import Mathy.Props.C10
namespace Mathy
open Mathy.Py Mathy.Gen.Src Mathy.SrcAgree

/-- **Source tie, parser (C03/C04/C10/C12).** Tokenizing with `exclude_padding = True` and running
`ExpressionParser._parse` — both as translated from the live source — yields exactly the model's
`parseText`: the same tree, the same `ParserException` subclass, or the tokenizer's `ValueError` with
the same offending character and text; for EVERY input string and whatever state `st` the parser
object was left in by earlier calls. -/
theorem Src_parse (st : ParserState) (s : List Char) :
    srcParseText st s = outcomeOf s (parseText s) :=
  parseText_agree st s

/-- **(C03) the grammar theorems hold for the translated parser**: on a token list of the
tokenizer's shape, translated `_parse` returns the model's `parseToks`, about which
`C03_parse_sound` / `C03_parse_complete` / `C03_unambiguous` are stated. -/
theorem Src_parse_tokens (st : ParserState) (s : List Char) (ts : List Tok) (h : tokenize false s = .ok ts) :
    (ExpressionParser__parse st (ts.map tokToPy)).map Prod.fst =
      match parseToks ts with
      | .ok e => .ok e
      | .error k => .error (errOf k) :=
  parse_agree st ts (tokenize_good false s ts h)

/-- **(C10) closed outcome of the translated parser**: a tree, the tokenizer's ValueError for the
first unsupported character, a malformed-number ValueError, or one of the five ParserException
subclasses — never IndexError, KeyError, a `None` operand or exhaustion of the fuel
`8 * len(tokens) + 17` given to `_parse` (every recursion and loop of the real parser terminates). -/
theorem Src_parse_closed (st : ParserState) (s : List Char) :
    (∃ e, srcParseText st s = .ok e) ∨
    (∃ c, srcParseText st s = .error (.ValueError (invalidTokenMsg c s))) ∨
    srcParseText st s = .error (.ValueError []) ∨
    srcParseText st s = .error .InvalidExpression ∨ srcParseText st s = .error .OutOfTokens ∨
    srcParseText st s = .error .InvalidSyntax ∨ srcParseText st s = .error .UnexpectedBehavior ∨
    srcParseText st s = .error .TrailingTokens := by
  rw [Src_parse]
  rcases C10_outcome_closed s with ⟨e, h⟩ | ⟨c, h⟩ | ⟨k, h, hk⟩
  · exact .inl ⟨e, by rw [h]; rfl⟩
  · exact .inr (.inl ⟨c, by rw [h]; rfl⟩)
  · rw [h]
    refine .inr (.inr ?_)
    cases k with
    | fuel => exact absurd rfl hk
    | badNumber => exact .inl rfl
    | invalidExpression => exact .inr (.inl rfl)
    | outOfTokens => exact .inr (.inr (.inl rfl))
    | invalidSyntax => exact .inr (.inr (.inr (.inl rfl)))
    | unexpectedBehavior => exact .inr (.inr (.inr (.inr (.inl rfl))))
    | trailingTokens => exact .inr (.inr (.inr (.inr (.inr rfl))))

/-- **(C12) no sticky state inside `_parse`**: the translated result does not depend on the state
the parser object is in when the call starts (`tokens`, `current_token` left over from an earlier,
possibly failed, parse). -/
theorem Src_parse_state_independent (st st' : ParserState) (s : List Char) :
    srcParseText st s = srcParseText st' s := by
  rw [Src_parse, Src_parse]

/-! non-vacuity: the translated Python, evaluated on concrete inputs -/
example : srcParseText ⟨[], ⟨[], 0⟩⟩ "4x^2".toList =
    .ok (.bin 0 .mul (.const 0 4) (.bin 0 .pow (.var 0 'x') (.const 0 2))) := by
  decide +kernel
example : srcParseText ⟨[], ⟨[], 0⟩⟩ "2+".toList = .error .UnexpectedBehavior := by
  decide +kernel

end Mathy
