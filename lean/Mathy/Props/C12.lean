/-
Property C12 — parser results do not depend on call history.
Model: `Model/ParserObj.lean` (the two caches, token lists as heap cells, ops parse / tokenize /
clear_cache / client pops from a list it was handed).
`freshTokenize`: `Proofs/ParserObjLemmas.lean`.
-/
import Mathy.Model.ParserObj
import Mathy.Proofs.ParserObjLemmas
namespace Mathy

/-- **C12.** After ANY history of parse / tokenize / clear_cache calls (failing ones included) and
of pops from token lists handed out earlier, `parse(s)` answers what a fresh parser answers … -/
theorem C12_parse_history_independent (ops : List POp) (s : List Char) :
    (runOps PState.init [] (ops ++ [.parse s])).getLast? = some (.parsed (parseText s)) := by
  rw [runOps_fresh _ _ _ PInv.init]
  simp [freshAnswer]

/-- … and `tokenize(s)` returns the fresh token list (so lists handed out are independent
copies: popping tokens off one, the model's `consume`, never affects later calls; the tokens
themselves are values in the model, and editing a `Token` object is outside it). -/
theorem C12_tokenize_history_independent (ops : List POp) (s : List Char) :
    (runOps PState.init [] (ops ++ [.tokenize s])).getLast? = some (freshTokenize s) := by
  rw [runOps_fresh _ _ _ PInv.init]
  simp [freshAnswer]

/-- every answer inside a history is the fresh answer too -/
theorem C12_every_answer_fresh (ops : List POp) (i : Nat) (o : POut)
    (h : (runOps PState.init [] ops)[i]? = some o) :
    match ops[i]? with
    | some (.parse s) => o = .parsed (parseText s)
    | some (.tokenize s) => o = freshTokenize s
    | _ => o = .unit := by
  rw [runOps_fresh _ _ _ PInv.init, List.getElem?_map] at h
  cases hi : ops[i]? with
  | none => simp [hi] at h
  | some op =>
    simp only [hi, Option.map_some, Option.some.injEq] at h
    subst h
    cases op <;> rfl

/-! non-vacuity: a history with a failing parse, a cache hit and a consumed list -/
example : runOps PState.init []
    [.parse "2+".toList, .tokenize "2+".toList, .consume 0 2, .tokenize "2+".toList, .parse "2".toList]
    = [.parsed (.perr .unexpectedBehavior),
       .tokens [⟨.constant, ['2']⟩, ⟨.plus, ['+']⟩, ⟨.eof, []⟩], .unit,
       .tokens [⟨.constant, ['2']⟩, ⟨.plus, ['+']⟩, ⟨.eof, []⟩],
       .parsed (.tree (.const 0 2))] := by
  decide +kernel

end Mathy
