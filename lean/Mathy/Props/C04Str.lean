/-
Property C04 at the level of TEXT: `strChars nt none e` is the exact string `str(e)` of the real
classes (compared character by character on every printed tree by the correspondence run);
`parseText` is tokenizer + parser.  Through `C04_str_tokens` the token-level theorems of
`Props/C04.lean` apply to the string.
`PrintableL`, `Printable`, `NumOk`: Proofs/PrintParse.lean.
-/
import Mathy.Props.C04
import Mathy.Proofs.StrTok
namespace Mathy

open StrTok

/-- `StrTok.StrOk` (Proofs/StrTok.lean), under the name the statements use -/
def CharsOk (nt : Rat → List Char) : Ex → Prop := StrOk nt

/-- **C04 (characters → tokens).** For every tree — any shape, any parent context — the tokenizer
maps the printed string to exactly the print tokens followed by one end marker: no two printed
pieces fuse into one token (`4x`, `-3`, `sgn(`, `x^2` are split where `__str__` glued them). -/
theorem C04_str_tokens (nt : Rat → List Char) (e : Ex) (p : Option (Bop × Side))
    (hc : CharsOk nt e) :
    tokenize false (strChars nt p e) = .ok (printToks nt p e ++ [⟨.eof, []⟩]) := by
  have h := lexes_str nt e p hc [] boundary_nil
  rw [List.append_nil, tokBody_nil] at h
  rw [tokenize_eq, h]
  simp only [Except.map, List.append_nil]

theorem parseText_str {nt : Rat → List Char} {e e' : Ex} (hc : CharsOk nt e)
    (h : parseToks (printRoot nt e) = .ok e') : parseText (strChars nt none e) = .tree e' := by
  unfold parseText
  rw [C04_str_tokens nt e none hc]
  simp only [printRoot] at h
  simp only [h]

/-- **C04 (text).** `C04_print_parse` for the STRING `str(e)` and `ExpressionParser.parse`. -/
theorem C04_print_parse_text (nt : Rat → List Char) (e : Ex) (hp : PrintableL e = true)
    (hn : NumOk nt e) (hc : CharsOk nt e) :
    ∃ e', parseText (strChars nt none e) = .tree e' ∧ EvalEq e e' ∧
      (∀ c, c ∈ e'.vars ↔ c ∈ e.vars) := by
  obtain ⟨e', hparse, hev, hv⟩ := C04_print_parse nt e hp hn
  exact ⟨e', parseText_str hc hparse, hev, hv⟩

/-- **C04 (text), arbitrary equation chains.** -/
theorem C04_print_parse_chain_text (nt : Rat → List Char) (e : Ex) (hp : Printable e = true)
    (hn : NumOk nt e) (hc : CharsOk nt e) :
    ∃ e', parseText (strChars nt none e) = .tree e' ∧
      (∀ env v, eval env e = .ok v ↔ eval env e' = .ok v) ∧ (∀ c, c ∈ e'.vars ↔ c ∈ e.vars) := by
  obtain ⟨e', hparse, hev, hv⟩ := C04_print_parse_chain nt e hp hn
  exact ⟨e', parseText_str hc hparse, hev, hv⟩

/-! non-vacuity: the string of `(-x)^2 * (2x)^3 - -(a - b)` -/
example : String.ofList (strChars showRat none
    (.bin 0 .sub (.bin 0 .mul (.bin 0 .pow (.un 0 .neg (.var 0 'x')) (.const 0 2))
                               (.bin 0 .pow (.bin 0 .mul (.const 0 2) (.var 0 'x')) (.const 0 3)))
                 (.un 0 .neg (.bin 0 .sub (.var 0 'a') (.var 0 'b')))))
  = "(-x)^2 * (2x)^3 - -(a - b)" := by
  decide +kernel

example : parseText "(-x)^2 * (2x)^3 - -(a - b)".toList
  = .tree (.bin 0 .sub (.bin 0 .mul (.bin 0 .pow (.un 0 .neg (.var 0 'x')) (.const 0 2))
                               (.bin 0 .pow (.bin 0 .mul (.const 0 2) (.var 0 'x')) (.const 0 3)))
                 (.un 0 .neg (.bin 0 .sub (.var 0 'a') (.var 0 'b')))) := by
  decide +kernel

end Mathy
