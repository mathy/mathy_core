/-
Source tie for the traversals of tree.py (C14) and the rule searches of rule.py built on them (C06):
`Gen/PySrcVisit.lean` is the template-checked translation of the live methods.
-/
import Mathy.Proofs.PySrcAgreeVisit
import Mathy.Props.C14
namespace Mathy
open Mathy.BT Mathy.Gen.Src Mathy.SrcAgree

/-- **Source tie, traversals (C14).** The three `visit_*` methods as translated from the live source make exactly
the visitor calls the model's traversals make, with the same depths, and report STOP in the same cases. -/
theorem Src_visits (stop : Nat → Nat → Bool) (d : Nat) (t : BT) :
    BinaryTreeNode_visit_preorder stop d t = t.visitPre stop d ∧
    BinaryTreeNode_visit_inorder stop d t = t.visitIn stop d ∧
    BinaryTreeNode_visit_postorder stop d t = t.visitPost stop d :=
  ⟨visit_preorder_agree stop d t, visit_inorder_agree stop d t, visit_postorder_agree stop d t⟩

/-- **(C14) `C14_visitPre` for the translated pre-order traversal** -/
theorem Src_visit_preorder_spec (stop : Nat → Nat → Bool) (d : Nat) (t : BT) :
    (BinaryTreeNode_visit_preorder stop d t).1 = takeThrough (fun p => stop p.1 p.2) (t.preorder d) ∧
    (BinaryTreeNode_visit_preorder stop d t).2 = (t.preorder d).any (fun p => stop p.1 p.2) := by
  rw [visit_preorder_agree]; exact C14_visitPre stop d t

/-- **(C06, search clause) the translated `find_nodes`** returns exactly the nodes the rule accepts, in in-order,
and writes `r_index` = in-order position on every node; **`find_node`** returns the first of them.
Here `can` classifies by id; `Src_findNodes` (Props/SrcTie.lean) classifies by position.
`C06_focuses_are_inorder` relates the two orders; the composition is not stated (ids may repeat). -/
theorem Src_find_nodes (can : Nat → Bool) (t : BT) :
    BaseRule_find_nodes can t = (((t.inorder 0).map (·.1)).filter can, ((t.inorder 0).map (·.1)).zipIdx) ∧
    BaseRule_find_node can t = ((t.inorder 0).find? (fun p => can p.1)).map (·.1) := by
  constructor
  · simp only [BaseRule_find_nodes, visit_inorder_agree, visitIn_never]
  · rw [← visitIn_first can t]
    simp only [BaseRule_find_node, visit_inorder_agree]
    split <;> rfl

example : BaseRule_find_nodes (fun i => i % 2 == 0) (.node 1 (.node 2 .nil (.node 3 .nil .nil)) (.node 4 .nil .nil)) =
    ([2, 4], [(2, 0), (3, 1), (1, 2), (4, 3)]) := by decide

end Mathy
