/-
Property C16, clause "the term predicates never raise on any non-equation expression", for the
function behind `is_simple_term` and `is_preferred_term_form`: `get_sub_terms` contains two
`assert`s (after a coefficient / a variable the next in-order node must be a multiplication, a
division or a power).  Over the model `getSubTerms` (Model/SubTerms.lean, compared with the real
function on every tree of the C16 run) neither can fail on a tree without an equation node: the node
after a leaf is a binary operator, and `+`/`-` return False before the assertion is reached
(Proofs/SubTermsLemmas.lean, which defines the hypothesis `ST.NoEqNode`).
-/
import Mathy.Proofs.SubTermsLemmas
namespace Mathy
open Mathy.ST

/-- **C16 (never raises).** For every expression without an equation node, `get_sub_terms` returns
`False` or a list of triples; no assertion fails and the scan terminates within its fuel. -/
theorem C16_getSubTerms_never_raises (e : Ex) (h : NoEqNode e = true) : getSubTerms e ≠ .raised := by
  unfold getSubTerms
  apply loop_ok <;> rw [rest_pop]
  · exact goodAdj_inorder e h
  · omega

/-- under an equation the assertion CAN fail: `2 = y` (why the property excludes equations) -/
example : getSubTerms (.bin 0 .eq (.const 0 2) (.var 0 'y')) = .raised := by decide +kernel

/-- non-vacuity: `2x^2 * 2y` has the sub-terms (2, x, 2) and (2, y, -) -/
example : getSubTerms (.bin 0 .mul (.bin 0 .mul (.const 0 2) (.bin 0 .pow (.var 0 'x') (.const 0 2)))
      (.bin 0 .mul (.const 0 2) (.var 0 'y')))
    = .terms [(some (.const 0 2), some (.var 0 'x'), some (.const 0 2)), (some (.const 0 2), some (.var 0 'y'), none)] := by
  decide +kernel

end Mathy
