/-
Property C01 — every applicable rewrite preserves the value of the expression.

Model: `Model/Rules.lean` (nine rules, all options), `Model/Util.lean`, `eval` over exact
rationals with total assignments (integer powers; see `evalPow`).
-/
import Mathy.Proofs.Apply
namespace Mathy

/-- **C01, main statement.**  For every tree `t` (not only parser outputs), every rule
configuration `r`, every in-order position `i` at which `r` reports applicable
(`i ∈ findNodes r t`, i.e. `can_apply_to` is true there) and every result `t'` of applying it
there: if `t` is an expression (not an equation — equations are C02), then `t'` refines `t`:
at every assignment where `t` has a value, `t'` has the same value. -/
theorem C01_rewrite_preserves_value (r : Rule) (t t' : Ex) (i : Nat)
    (hcan : i ∈ findNodes r t) (happ : applyAt r t i = .ok t')
    (hexpr : t.isOp .eq = false) : Refines t t' := by
  obtain ⟨k, n, k', n', rfl, rfl, hc, h⟩ := applyAt_step hcan happ
  by_cases hr : r = .balancedMove
  · -- a balanced move is never applicable in a non-equation
    subst hr
    obtain ⟨ty, hty⟩ := Option.isSome_iff_exists.mp hc
    rw [bmType_root_eq hty] at hexpr
    cases hexpr
  · exact applyRule_refines hr hc h

/-- The same for every tree, equations included, for all rules but the balanced move. -/
theorem C01_rewrite_refines_any_tree (r : Rule) (hr : r ≠ .balancedMove) (t t' : Ex) (i : Nat)
    (hcan : i ∈ findNodes r t) (happ : applyAt r t i = .ok t') : Refines t t' := by
  obtain ⟨k, n, k', n', rfl, rfl, hc, h⟩ := applyAt_step hcan happ
  exact applyRule_refines hr hc h

/-- The property in the words of its statement: wherever both are defined the values agree. -/
theorem C01_common_domain (r : Rule) (t t' : Ex) (i : Nat)
    (hcan : i ∈ findNodes r t) (happ : applyAt r t i = .ok t') (hexpr : t.isOp .eq = false)
    (env : Env) (v w : Rat) (hv : eval env t = .ok v) (hw : eval env t' = .ok w) : v = w := by
  have := (C01_rewrite_preserves_value r t t' i hcan happ hexpr env).1 v hv
  rw [this] at hw
  exact Except.ok.inj hw

/-- `2(x + 3)` at the product, distribute: `2x + 2*3` -/
example : applyAt .distribute
    (.bin 1 .mul (.const 2 2) (.bin 3 .add (.var 4 'x') (.const 5 3))) 1
    = .ok (.bin 0 .add (.bin 0 .mul (.const 0 2) (.var 0 'x')) (.bin 0 .mul (.const 0 2) (.const 0 3))) := by
  decide

example : 1 ∈ findNodes .distribute
    (.bin 1 .mul (.const 2 2) (.bin 3 .add (.var 4 'x') (.const 5 3))) := by decide

/-- `4x + 2x` factor out: `(4 + 2) * x` -/
example : applyAt (.factorOut false)
    (.bin 1 .add (.bin 2 .mul (.const 3 4) (.var 4 'x')) (.bin 5 .mul (.const 6 2) (.var 7 'x'))) 3
    = .ok (.bin 0 .mul (.bin 0 .add (.const 0 4) (.const 0 2)) (.var 0 'x')) := by
  decide +kernel

end Mathy
