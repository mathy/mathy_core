/-
Property C10 — parsing is total, has a closed error contract and keeps no sticky state.

`parseText : List Char → ParseOut` is a total function by construction (structural recursion on
fuel / on the input), and `ParseOut` is the closed contract: a tree, one of the five documented
parser exceptions or a malformed number (`perr`), or an unsupported character (`badChar`).
What has content is that the model's own escape hatch `PErr.fuel` is never taken.
That returned trees are made of fresh objects only is how the model is written (every node
`Model/Parser.lean` builds has tag 0); no theorem states it.  The interpreter's recursion limit is
runtime behaviour outside the model (deep-input probes in the check; one known finding: flat `*`
chains of about a thousand factors).
-/
import Mathy.Props.C11
import Mathy.Props.C12
import Mathy.Proofs.ParserFuel
namespace Mathy

/-- the fuel the model gives the parser is always enough -/
theorem C10_never_out_of_fuel (ts : List Tok) : parseToks ts ≠ .error .fuel :=
  parseToks_ne_fuel ts

theorem C10_outcome_closed (s : List Char) :
    (∃ e, parseText s = .tree e) ∨ (∃ c, parseText s = .badChar c) ∨
    (∃ k, parseText s = .perr k ∧ k ≠ .fuel) := by
  unfold parseText
  cases h : tokenize false s with
  | error c => exact Or.inr (Or.inl ⟨c, rfl⟩)
  | ok ts =>
    simp only
    cases hp : parseToks ts with
    | ok e => exact Or.inl ⟨e, rfl⟩
    | error k =>
      refine Or.inr (Or.inr ⟨k, rfl, ?_⟩)
      intro hk
      exact C10_never_out_of_fuel ts (hk ▸ hp)

/-- an unsupported character is reported, and it is the first one (ValueError in Python; from C11) -/
theorem C10_bad_character (s : List Char) (c : Char) :
    parseText s = .badChar c ↔
      ∃ pre post, s = pre ++ c :: post ∧ (∀ d ∈ pre, supported d = true) ∧ supported c = false := by
  rw [← C11_error_iff false s c]
  unfold parseText
  cases h : tokenize false s with
  | error c' => simp
  | ok ts => cases hp : parseToks ts <;> simp [hp]

/-- a failed parse (or any other call) leaves the parser fully usable: later calls on the same
parser answer as a fresh parser does (from C12) -/
theorem C10_no_sticky_state (ops : List POp) (s : List Char) :
    (runOps PState.init [] (ops ++ [.parse s])).getLast? = some (.parsed (parseText s)) :=
  C12_parse_history_independent ops s

end Mathy
