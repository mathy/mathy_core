/-
Property C02 — rewrites preserve the solution set of equations.
-/
import Mathy.Proofs.Apply
namespace Mathy

/-- **C02, main statement.**  Any applicable rewrite (any rule, any option, any node, any tree):
wherever the original holds (evaluates: both sides defined and equal) the result holds, and
wherever the original does not hold (sides defined and different) the result does not hold. -/
theorem C02_rewrite_preserves_truth (r : Rule) (t t' : Ex) (i : Nat)
    (hcan : i ∈ findNodes r t) (happ : applyAt r t i = .ok t') : HoldsRefines t t' := by
  obtain ⟨k, n, k', n', rfl, rfl, hc, h⟩ := applyAt_step hcan happ
  exact applyRule_holds hc h

/-- In the words of the statement: at every assignment where both equations are defined, one
holds exactly when the other does.  (That the result is defined, `_hd'`, is not needed.) -/
theorem C02_same_solutions (r : Rule) (t t' : Ex) (i : Nat)
    (hcan : i ∈ findNodes r t) (happ : applyAt r t i = .ok t') (env : Env)
    (hd : eval env t ≠ .error .undef) (_hd' : eval env t' ≠ .error .undef) :
    (∃ v, eval env t = .ok v) ↔ (∃ v, eval env t' = .ok v) := by
  obtain ⟨h1, h2⟩ := C02_rewrite_preserves_truth r t t' i hcan happ env
  constructor
  · exact h1
  · rintro ⟨w, hw⟩
    rcases ht : eval env t with (_ | _) | v
    · exact absurd ht hd
    · rw [h2 ht] at hw; cases hw
    · exact ⟨v, rfl⟩

/-- A balanced move of an addend only happens when every node between the addend and its side
of the equation is an addition (never out of a product, quotient, power, negation, subtrahend). -/
theorem C02_bm_addend_is_top_level (k inner : Ctx) (rootF : Frame) (n : Ex)
    (h : bmType k n = some .addition) (hs : splitRoot k = some (inner, rootF)) :
    allAdd inner = true ∧ rootF.isOp .eq = true := by
  have ht := bmType_inv h hs
  exact ⟨ht.allAdd rfl, ht.root⟩

/-- A balanced move never divides by zero. -/
theorem C02_bm_never_divides_by_zero (k : Ctx) (n : Ex)
    (h : bmType k n = some .constOfMultiply) : ∃ t v, n = .const t v ∧ v ≠ 0 := by
  obtain ⟨inner, rootF, hs⟩ := bmType_splitRoot h
  exact (bmType_inv h hs).divisor rfl

/-- `x + 2 = 3`, move the `2`: `x = 3 - 2` -/
example : applyAt .balancedMove
    (.bin 1 .eq (.bin 2 .add (.var 3 'x') (.const 4 2)) (.const 5 3)) 2
    = .ok (.bin 0 .eq (.var 0 'x') (.bin 0 .sub (.const 0 3) (.const 0 2))) := by decide +kernel

example : findNodes .balancedMove
    (.bin 1 .eq (.bin 2 .add (.var 3 'x') (.const 4 2)) (.const 5 3)) = [0, 2] := by decide +kernel

/-- `2(x + 3) = 8`: the inner `3` is not movable (nor is the 2, while an addition remains) -/
example : findNodes .balancedMove
    (.bin 1 .eq (.bin 2 .mul (.const 3 2) (.bin 4 .add (.var 5 'x') (.const 6 3))) (.const 7 8)) = [] := by
  decide +kernel

/-- `0x = 0`: nothing to divide by -/
example : findNodes .balancedMove
    (.bin 1 .eq (.bin 2 .mul (.const 3 0) (.var 4 'x')) (.const 5 0)) = [] := by decide +kernel

end Mathy
