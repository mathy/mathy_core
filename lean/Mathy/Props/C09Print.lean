/-
Property C09, "every intermediate expression prints and re-parses": rewrites preserve
printability (no `abs`, factorial only of a literal, equations only along the top chain), so C04's
round-trip theorem applies to every state of every sequence that starts from a printable tree, e.g.
from a parser output.
`Printable`, `NumOk` are defined in Proofs/PrintParse.lean, `Steps` in Props/C09.lean.
-/
import Mathy.Props.C04
import Mathy.Props.C09
import Mathy.Proofs.PrintableLemmas
namespace Mathy

/-- **C09, "prints and re-parses", one step**: a rule applied where it applies keeps the tree printable. -/
theorem C09_rewrite_preserves_printable (r : Rule) (t t' : Ex) (i : Nat)
    (hcan : i ∈ findNodes r t) (happ : applyAt r t i = .ok t') (hp : Printable t = true) :
    Printable t' = true := by
  obtain ⟨k, n, k', n', rfl, rfl, hc, h⟩ := applyAt_step hcan happ
  exact applyRule_printable hc h hp

/-- **C09**: and so does every sequence of rewrites. -/
theorem C09_states_printable (t0 tn : Ex) (h : Steps t0 tn) (hp : Printable t0 = true) :
    Printable tn = true := by
  induction h with
  | refl => exact hp
  | step r i _ hcan happ ih => exact C09_rewrite_preserves_printable r _ _ i hcan happ ih

/-- **C09.** Every state prints to text the parser accepts, re-parsing to a tree with the same value
wherever either has one and the same variables (the number formatter has to round-trip on the
constants of that state). -/
theorem C09_states_reparse (nt : Rat → List Char) (t0 tn : Ex) (h : Steps t0 tn)
    (hp : Printable t0 = true) (hn : NumOk nt tn) :
    ∃ e', parseToks (printRoot nt tn) = .ok e' ∧
      (∀ env v, eval env tn = .ok v ↔ eval env e' = .ok v) ∧ (∀ c, c ∈ e'.vars ↔ c ∈ tn.vars) :=
  C04_print_parse_chain nt tn (C09_states_printable t0 tn h hp) hn

/-- **C09, the start**: a tree of the documented grammar, so (`C03_parse_sound`) every parser output, is printable. -/
theorem C09_parsed_is_printable (body : List Tok) (e : Ex) (h : G.EqualE body e) : Printable e = true := by
  cases h with
  | mk a a' => exact eqLoop_printable a' (noEq_printable (addE_noEq a))

end Mathy
