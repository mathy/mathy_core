/-
Property C18 — tree layout satisfies the tidy-tree invariants and is repeatable.

The property quantifies over a BOUNDED set of shapes, so kernel-checked exhaustive evaluation of
the model IS a proof of (the model-level reading of) it: `C18_table` states, for every binary
shape with 1 … 7 nodes, exactly which invariants the layout violates (`Gen/LayoutTable.lean`,
regenerated on every run from the committed known-findings table `findings_layout.json`).  The real
`layout()` violates the property from 4 nodes on (known findings C18-*); the correspondence run
compares every coordinate of the real code with the model.
-/
import Mathy.Gen.LayoutTable
namespace Mathy

/-- for every shape with at most 7 nodes the violated invariants are exactly the listed ones -/
theorem C18_table : (shapesUpTo layoutTableBound).map violations = layoutTable := by
  decide +kernel

/-- C18, the part that holds on every shape up to the bound (read off `C18_table`) -/
theorem C18_always_hold :
    ∀ t ∈ shapesUpTo layoutTableBound,
      LInv.yIsDepth ∉ violations t ∧ LInv.parentCentred ∉ violations t ∧ LInv.boundsAreBbox ∉ violations t := by
  intro t ht
  have hrow : violations t ∈ layoutTable := by
    rw [← C18_table]; exact List.mem_map_of_mem ht
  have hall : ∀ row ∈ layoutTable,
      LInv.yIsDepth ∉ row ∧ LInv.parentCentred ∉ row ∧ LInv.boundsAreBbox ∉ row := by decide +kernel
  exact hall _ hrow

/-- C18 in full on the shapes with at most 3 nodes: no invariant is violated -/
theorem C18_small_shapes_fine : ∀ t ∈ shapesUpTo 3, violations t = [] := by
  decide +kernel

end Mathy
