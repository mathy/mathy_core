/-
Property C14 — traversals and look-ups visit exactly the right nodes in the right order.
Model: `Model/Tree.lean` (`BT`: every node has 0, left-only, right-only or 2 children).
-/
import Mathy.Proofs.Traversal
namespace Mathy
open BT

/-- **pre-order**: the callbacks are the defining order cut right after the first STOP, each
with the node's depth; the traversal reports STOP iff some visited node stopped it. -/
theorem C14_visitPre (stop : Nat → Nat → Bool) (d : Nat) (t : BT) :
    (t.visitPre stop d).1 = takeThrough (fun p => stop p.1 p.2) (t.preorder d) ∧
    (t.visitPre stop d).2 = (t.preorder d).any (fun p => stop p.1 p.2) := by
  rw [visitPre_eq_run]; exact ⟨run_fst .., run_snd ..⟩

theorem C14_visitIn (stop : Nat → Nat → Bool) (d : Nat) (t : BT) :
    (t.visitIn stop d).1 = takeThrough (fun p => stop p.1 p.2) (t.inorder d) ∧
    (t.visitIn stop d).2 = (t.inorder d).any (fun p => stop p.1 p.2) := by
  rw [visitIn_eq_run]; exact ⟨run_fst .., run_snd ..⟩

theorem C14_visitPost (stop : Nat → Nat → Bool) (d : Nat) (t : BT) :
    (t.visitPost stop d).1 = takeThrough (fun p => stop p.1 p.2) (t.postorder d) ∧
    (t.visitPost stop d).2 = (t.postorder d).any (fun p => stop p.1 p.2) := by
  rw [visitPost_eq_run]; exact ⟨run_fst .., run_snd ..⟩

/-- without STOP every node is called back exactly once: the three orders are permutations of
one another and list each node object once -/
theorem C14_orders_perm (d : Nat) (t : BT) :
    (t.inorder d).Perm (t.preorder d) ∧ (t.postorder d).Perm (t.preorder d) ∧
    (t.inorder d).map (·.1) = t.ids ∧ (t.preorder d).length = t.size := by
  induction t generalizing d with
  | nil => exact ⟨.nil, .nil, rfl, rfl⟩
  | node i l r ihl ihr =>
    obtain ⟨a1, a2, -, a4⟩ := ihl (d+1)
    obtain ⟨b1, b2, -, b4⟩ := ihr (d+1)
    refine ⟨List.perm_middle.trans (.cons _ (a1.append b1)), ?_, inorder_map_fst d _, ?_⟩
    · rw [postorder, ← List.append_assoc]
      exact (List.perm_append_singleton _ _).trans (.cons _ (a2.append b2))
    · simp only [preorder, size, List.length_cons, List.length_append, a4, b4]

/-- the depth passed to the visitor is the node's true depth: the length of its path -/
theorem C14_depth_is_path_length (d : Nat) (t : BT) (i k : Nat) (h : (i, k) ∈ t.preorder d) :
    ∃ p : Path, p.length + d = k ∧ (t.sub p).rootId = some i := by
  induction t generalizing d with
  | nil => simp [preorder] at h
  | node j l r ihl ihr =>
    simp only [preorder, List.mem_cons, List.mem_append, Prod.mk.injEq] at h
    rcases h with ⟨rfl, rfl⟩ | h | h
    · exact ⟨[], Nat.zero_add _, rfl⟩
    · obtain ⟨p, hp1, hp2⟩ := ihl (d+1) h
      exact ⟨.L :: p, by rw [List.length_cons]; omega, hp2⟩
    · obtain ⟨p, hp1, hp2⟩ := ihr (d+1) h
      exact ⟨.R :: p, by rw [List.length_cons]; omega, hp2⟩

/-- `pathOf` is no look-up of mathy_core: the driver's `rotate` line locates its node with it (Main.lean) -/
theorem C14_pathOf_sound (t : BT) (i : Nat) (p : Path) (h : t.pathOf i = some p) :
    (t.sub p).rootId = some i := by
  induction t generalizing p with
  | nil => cases h
  | node j l r ihl ihr =>
    rw [pathOf] at h
    split at h
    next hji => cases h; exact congrArg some hji
    next =>
      split at h
      next q hl => cases h; exact ihl q hl
      next =>
        split at h
        next q hr => cases h; exact ihr q hr
        next => cases h

theorem C14_pathOf_complete (t : BT) (i : Nat) (h : i ∈ t.ids) : ∃ p, t.pathOf i = some p := by
  induction t with
  | nil => cases h
  | node j l r ihl ihr =>
    simp only [ids, List.mem_append, List.mem_cons] at h
    rw [pathOf]
    split
    · exact ⟨_, rfl⟩
    · rcases h with h | h | h
      · obtain ⟨p, hp⟩ := ihl h
        rw [hp]; exact ⟨_, rfl⟩
      · exact absurd h.symm ‹_›
      · obtain ⟨p, hp⟩ := ihr h
        rw [hp]; cases pathOf i l <;> exact ⟨_, rfl⟩

/-- children are listed left first; a leaf has none -/
theorem C14_children (i : Nat) (l r : BT) :
    (BT.node i l r).children = l.rootId.toList ++ r.rootId.toList ∧
    ((BT.node i l r).isLeaf = true ↔ l = .nil ∧ r = .nil) := by
  refine ⟨rfl, ?_⟩
  cases l <;> cases r <;> simp [isLeaf]

/-! non-vacuity: a one-child-on-the-right node inside, stop at node 4 -/
example : (BT.node 1 (.node 2 .nil (.node 3 .nil .nil)) (.node 4 .nil .nil)).visitIn (fun i _ => i == 4) 0
    = ([(2, 1), (3, 2), (1, 0), (4, 1)], true) := by decide

end Mathy
